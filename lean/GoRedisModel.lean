-- Root of the `GoRedisModel` library: importing every property module builds the whole development.
import GoRedisModel.Properties.C01
import GoRedisModel.Properties.C02
import GoRedisModel.Properties.C03
import GoRedisModel.Properties.C04
import GoRedisModel.Properties.C05
import GoRedisModel.Properties.C06
import GoRedisModel.Properties.C07
import GoRedisModel.Properties.C08
import GoRedisModel.Properties.C09
import GoRedisModel.Properties.C10
import GoRedisModel.Properties.C11
import GoRedisModel.Properties.C12
import GoRedisModel.Properties.C13
import GoRedisModel.Properties.C14
import GoRedisModel.Properties.C15
import GoRedisModel.Properties.C16
import GoRedisModel.Properties.C17
import GoRedisModel.Properties.C18
import GoRedisModel.Properties.C19
import GoRedisModel.Properties.C20
