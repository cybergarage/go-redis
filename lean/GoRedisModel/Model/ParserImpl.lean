import GoRedisModel.Model.ParserSpec
import GoRedisModel.Model.Reader
/-! `parser.go` / `array.go` read by read over the chunked transport. -/
namespace GoRedis

/-- `nextLineBytes`: one-byte reads until CR, then one skipped byte; end of stream returns what was read. -/
def lineLoop : Nat → Reader → Bytes → Bytes × Reader
  | 0, r, acc => (acc, r)
  | k+1, r, acc =>
    match r.read 1 with
    | ([b], r') => if b == CR then (acc, (r'.read 1).2) else lineLoop k r' (acc ++ [b])
    | (_, r') => (acc, r')

/-- `lineLoop` with the line accumulated in reverse (the definition above appends one byte at a time, which is quadratic
in the line length when it is *run*; compiled code runs this one instead - `lineLoop_eq_fast` below, `@[csimp]`) -/
def lineLoopRev : Nat → Reader → Bytes → Bytes × Reader
  | 0, r, racc => (racc, r)
  | k+1, r, racc =>
    match r.read 1 with
    | ([b], r') => if b == CR then (racc, (r'.read 1).2) else lineLoopRev k r' (b :: racc)
    | (_, r') => (racc, r')

def lineLoopFast (k : Nat) (r : Reader) (acc : Bytes) : Bytes × Reader :=
  let x := lineLoopRev k r acc.reverse
  (x.1.reverse, x.2)

theorem lineLoop_rev (k : Nat) (r : Reader) (acc : Bytes) :
    lineLoop k r acc = ((lineLoopRev k r acc.reverse).1.reverse, (lineLoopRev k r acc.reverse).2) := by
  induction k generalizing r acc with
  | zero => simp [lineLoop, lineLoopRev]
  | succ k ih =>
    simp only [lineLoop, lineLoopRev]
    -- both loops branch on the same read and the same test for CR
    split
    · split
      · simp
      · rw [ih]; simp
    · simp

@[csimp] theorem lineLoop_eq_fast : @lineLoop = @lineLoopFast := by
  funext k r acc
  simp [lineLoopFast, lineLoop_rev]

/-- the accumulate loop of `nextLengthBytes`: read into the rest of the buffer until `need` more bytes have
arrived or the stream ends -/
def lenLoop : Nat → Reader → Nat → Bytes → Bytes × Reader
  | 0, r, _, acc => (acc, r)
  | k+1, r, need, acc =>
    if need = 0 then (acc, r) else
    match r.read need with
    | ([], r') => (acc, r')
    | (bs, r') => lenLoop k r' (need - bs.length) (acc ++ bs)

inductive IRes where
  | ok (m : Msg) (r : Reader)
  | eof
  | err
  | panic          -- a Go run-time panic (`makeslice: len out of range`); shown unreachable
  | fuel
deriving Repr, Inhabited

/-- largest `make([]byte, n)` the Go runtime accepts on a 64-bit platform (2^47 bytes of address space) -/
def maxAlloc : Nat := 140737488355328

def ielems (p : Reader → IRes) : Nat → Reader → List Msg → IRes
  | 0, r, acc => .ok (.arr acc.reverse) r
  | n+1, r, acc =>
    match p r with
    | .ok m r' => ielems p n r' (m :: acc)
    | .eof => .err
    | e => e

def inext : Nat → Reader → IRes
  | 0, _ => .fuel
  | f+1, r =>
    match r.read 1 with
    | (t :: _, r1) =>
      if t == arrayByte then
        let (ln, r2) := lineLoop (f+1) r1 []
        match atoi ln with
        | none => .err
        | some n => if n < 0 then .ok (.arr []) r2 else ielems (inext f) n.toNat r2 []
      else if t == bulkByte then
        let (ln, r2) := lineLoop (f+1) r1 []
        match atoi ln with
        | none => .err
        | some n =>
          if n < 0 then .ok (.bulk none) r2
          else if n.toNat > maxBulk then .err
          else
            let need := n.toNat + 2
            if need > maxAlloc then .panic else
            let (buf, r3) := lenLoop need r2 need []
            if buf.length < need then .err
            else if (buf.drop n.toNat) == CRLF then .ok (.bulk (some (buf.take n.toNat))) r3
            else .err
      else match lineTy? t with
        | none => .err
        | some ty => let (ln, r2) := lineLoop (f+1) r1 []; .ok (.line ty ln) r2
    | ([], _) => .eof

/-- The Go functions of `redis/proto` that this file (and `Reader`, `Resp`) transcribes, with the fingerprint of the source
they were transcribed from (FNV-1a 64 of signature and body as go/printer prints them, whitespace collapsed) and the
definition that transcribes each.  `Generated.protoFingerprints` is regenerated from /repo on every run and must contain
every entry (`C02_source_parser_is_the_modelled_one`, `C01_source_serializer_is_the_modelled_one`): a change to one of
these functions means the transcription has to be looked at again – until then the check treats the theorems about it as
no longer shown for the code, and searches for a failing input with the differential. -/
def parserModelled : List (String × Nat × String) := [
  ("Parser.Next", 10069049075977101191, "inext"),
  ("Parser.nextArrayMessage", 12841142932256633484, "inext (array branch)"),
  ("Parser.nextBulkMessage", 4731615691933970192, "inext (bulk branch)"),
  ("Parser.nextLengthBytes", 8625509693833932105, "lenLoop"),
  ("Parser.nextLineBytes", 15306031760255691629, "lineLoop"),
  ("newArrayWithParser", 2397362184235602053, "ielems")]

def serializerModelled : List (String × Nat × String) := [
  ("Array.RESPBytes", 9708786277464342792, "enc (.arr es)"),
  ("Message.RESPBytes", 14589052334745002506, "enc")]

end GoRedis
