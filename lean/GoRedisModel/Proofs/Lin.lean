import GoRedisModel.Model.Lin
/-! The checker decides linearizability (sound and complete), and executions in which every operation takes
effect atomically between its invocation and its response are linearizable. -/
namespace GoRedis.Lin

variable {S C R : Type} [DecidableEq C] [DecidableEq R]

omit [DecidableEq C] [DecidableEq R] in
theorem minimal_iff (o : Op C R) (pending : List (Op C R)) :
    minimal o pending = true ↔ ∀ p ∈ pending, ¬ p.res < o.inv := by
  simp only [minimal, List.all_eq_true, Bool.not_eq_true', decide_eq_false_iff_not]

theorem check_sound (step : S → C → R × S) :
    ∀ (f : Nat) (s : S) (pending : List (Op C R)), check step f s pending = true → Linearizable step s pending
  | _, _, [], _ => ⟨[], .refl _, .nil, rfl⟩
  | 0, _, _ :: _, h => nomatch h
  | f+1, s, a :: as, h => by
    simp only [check, List.any_eq_true, Bool.and_eq_true, beq_iff_eq] at h
    obtain ⟨o, ho, ⟨hmin, hout⟩, hrec⟩ := h
    obtain ⟨l, hperm, hrt, hrep⟩ := check_sound step f _ _ hrec
    refine ⟨o :: l, (hperm.cons o).trans (List.perm_cons_erase ho).symm, hrt.cons fun b hb => ?_, ?_⟩
    · exact (minimal_iff o _).mp hmin b (List.mem_of_mem_erase (hperm.subset hb))
    · simp only [replayOk, hout, hrep, beq_self_eq_true, Bool.and_self]

theorem check_complete (step : S → C → R × S) (s : S) (pending : List (Op C R))
    (hwf : ∀ o ∈ pending, o.inv ≤ o.res)
    (h : Linearizable step s pending) : ∀ f, pending.length ≤ f → check step f s pending = true := by
  obtain ⟨l, hperm, hrt, hrep⟩ := h
  rw [← hperm.length_eq]
  induction l generalizing s pending with
  | nil =>
    intro f _
    cases hperm.symm.eq_nil
    cases f <;> rfl
  | cons o l ih =>
    intro f hf
    obtain ⟨hmin, hrt⟩ := List.pairwise_cons.mp hrt
    simp only [replayOk, Bool.and_eq_true, beq_iff_eq] at hrep
    have hoin : o ∈ pending := hperm.subset List.mem_cons_self
    cases f with
    | zero => cases hf
    | succ f =>
      cases pending with
      | nil => cases hoin
      | cons a as =>
        simp only [check, List.any_eq_true, Bool.and_eq_true, beq_iff_eq]
        refine ⟨o, hoin, ⟨(minimal_iff o _).mpr fun p hp => ?_, hrep.1⟩,
          ih _ _ (fun q hq => hwf q (List.mem_of_mem_erase hq)) (hperm.trans (List.perm_cons_erase hoin)).cons_inv hrt
            hrep.2 f (Nat.le_of_succ_le_succ hf)⟩
        -- nothing pending completed before `o` was invoked: not `o` itself, nor what the witness places after it
        rcases List.mem_cons.mp (hperm.symm.subset hp) with rfl | hp
        · exact Nat.not_lt.mpr (hwf p hoin)
        · exact hmin p hp

theorem check_iff (step : S → C → R × S) (s : S) (h : List (Op C R)) (hwf : ∀ o ∈ h, o.inv ≤ o.res) :
    check step h.length s h = true ↔ Linearizable step s h :=
  ⟨check_sound step _ s h, fun hl => check_complete step s h hwf hl _ (Nat.le_refl _)⟩

/-! ## Atomic execution ⇒ linearizable

`ex o` is the instant at which operation `o` takes effect (for the server: while its connection holds the dispatch
lock).  If the instants are distinct and lie between invocation and response, and every output is what the
specification yields when the operations are applied in the order of their instants, the history is
linearizable – for any number of clients and operations. -/

/-- operations paired with their effect instants, in the order of those instants -/
def AtomicRun (step : S → C → R × S) (s0 : S) (l : List (Op C R × Nat)) : Prop :=
  l.Pairwise (fun a b => a.2 < b.2) ∧ (∀ p ∈ l, p.1.inv < p.2 ∧ p.2 < p.1.res) ∧ replayOk step s0 (l.map Prod.fst) = true

omit [DecidableEq C] in
theorem atomic_linearizable (step : S → C → R × S) (s0 : S) (l : List (Op C R × Nat)) (h : List (Op C R))
    (hrun : AtomicRun step s0 l) (hperm : (l.map Prod.fst).Perm h) : Linearizable step s0 h := by
  obtain ⟨hord, hbetween, hrep⟩ := hrun
  refine ⟨l.map Prod.fst, hperm, ?_, hrep⟩
  unfold RespectsRT
  rw [List.pairwise_map]
  refine List.Pairwise.imp_of_mem ?_ hord
  intro a b ha hb hab hres
  have h1 := hbetween a ha
  have h2 := hbetween b hb
  omega

/-! ## The server as a transition system: invoke / take effect under the dispatch lock / respond

Any number of clients; a schedule is any list of actions (an action that is not enabled changes nothing).  `exec c`
is the critical section of the dispatch mutex: the whole command is applied to the store in one step. -/

section system
omit [DecidableEq C] [DecidableEq R]

inductive Act (C : Type) where
  | inv (c : Nat) (cmd : C)
  | exec (c : Nat)
  | res (c : Nat)

inductive CSt (C : Type) where
  | idle
  | invoked (t : Nat) (cmd : C)
  | executed (tex : Nat)

structure XOp (C R : Type) where
  client : Nat
  inv : Nat
  ex : Nat
  cmd : C
  out : R

structure Sys (S C R : Type) where
  /-- the clock: every enabled action takes one tick, so the instants recorded below are distinct -/
  time : Nat
  store : S
  cl : Nat → CSt C
  /-- the operations that have taken effect, in that order -/
  execd : List (XOp C R)
  /-- the response time of the operation that took effect at instant `t`, once its reply has arrived -/
  resOf : Nat → Option Nat

def Sys.init (s0 : S) : Sys S C R := { time := 1, store := s0, cl := fun _ => .idle, execd := [], resOf := fun _ => none }

def Sys.step (step : S → C → R × S) (s : Sys S C R) : Act C → Sys S C R
  | .inv c cmd =>
    match s.cl c with
    | .idle => { s with time := s.time + 1, cl := fun c' => if c' = c then .invoked s.time cmd else s.cl c' }
    | _ => s
  | .exec c =>
    match s.cl c with
    | .invoked ti cmd =>
      { s with time := s.time + 1, store := (step s.store cmd).2,
               execd := s.execd ++ [{ client := c, inv := ti, ex := s.time, cmd := cmd, out := (step s.store cmd).1 }],
               cl := fun c' => if c' = c then .executed s.time else s.cl c' }
    | _ => s
  | .res c =>
    match s.cl c with
    | .executed tex =>
      { s with time := s.time + 1, resOf := fun t => if t = tex then some s.time else s.resOf t,
               cl := fun c' => if c' = c then .idle else s.cl c' }
    | _ => s

def Sys.run (step : S → C → R × S) (s : Sys S C R) (sched : List (Act C)) : Sys S C R := sched.foldl (Sys.step step) s

/-- the history a state stands for: every operation that has taken effect, with its response time (an operation
whose reply is still on its way is completed "now") -/
def Sys.toOp (s : Sys S C R) (x : XOp C R) : Op C R :=
  { client := x.client, inv := x.inv, res := (s.resOf x.ex).getD s.time, cmd := x.cmd, out := x.out }

def Sys.history (s : Sys S C R) : List (Op C R) := s.execd.map s.toOp

/-- replaying the executed operations in order from `s0` gives the recorded outputs and ends in `sf` -/
def ReplayX (step : S → C → R × S) : S → List (XOp C R) → S → Prop
  | s, [], sf => s = sf
  | s, x :: xs, sf => (step s x.cmd).1 = x.out ∧ ReplayX step (step s x.cmd).2 xs sf

theorem replayX_append (step : S → C → R × S) (s : S) (xs : List (XOp C R)) (sm : S) (x : XOp C R)
    (h : ReplayX step s xs sm) (hx : (step sm x.cmd).1 = x.out) : ReplayX step s (xs ++ [x]) (step sm x.cmd).2 := by
  induction xs generalizing s with
  | nil => cases h; exact ⟨hx, rfl⟩
  | cons y ys ih => exact ⟨h.1, ih _ h.2⟩

structure SysInv (step : S → C → R × S) (s0 : S) (s : Sys S C R) : Prop where
  replay : ReplayX step s0 s.execd s.store
  order : s.execd.Pairwise (fun a b => a.ex < b.ex)
  bounds : ∀ x ∈ s.execd, x.inv < x.ex ∧ x.ex < s.time
  resp : ∀ t r, s.resOf t = some r → t < r ∧ r < s.time
  invoked : ∀ c ti cmd, s.cl c = .invoked ti cmd → ti < s.time
  executed : ∀ c tex, s.cl c = .executed tex → tex < s.time

theorem SysInv.init (step : S → C → R × S) (s0 : S) : SysInv step s0 (Sys.init s0 : Sys S C R) :=
  { replay := rfl, order := .nil, bounds := nofun, resp := nofun, invoked := nofun, executed := nofun }

/-- the time a client state is stamped with (none: 0) -/
def CSt.stamp : CSt C → Nat
  | .idle => 0
  | .invoked t _ => t
  | .executed t => t

/-! Every enabled action advances the clock by one and gives the acting client a state stamped with the old time (or
none); so the four clauses that bound a recorded time by the clock are kept for one reason, said once here. -/
section tick
variable {step : S → C → R × S} {s0 : S} {s : Sys S C R} (h : SysInv step s0 s)
include h

theorem SysInv.bounds_tick : ∀ x ∈ s.execd, x.inv < x.ex ∧ x.ex < s.time + 1 :=
  fun x hx => ⟨(h.bounds x hx).1, Nat.lt_succ_of_lt (h.bounds x hx).2⟩

theorem SysInv.resp_tick : ∀ t r, s.resOf t = some r → t < r ∧ r < s.time + 1 :=
  fun t r hr => ⟨(h.resp t r hr).1, Nat.lt_succ_of_lt (h.resp t r hr).2⟩

theorem SysInv.cl_tick (c : Nat) (x : CSt C) (hx : x.stamp ≤ s.time) :
    (∀ c' ti cmd, (if c' = c then x else s.cl c') = .invoked ti cmd → ti < s.time + 1) ∧
    (∀ c' tex, (if c' = c then x else s.cl c') = .executed tex → tex < s.time + 1) := by
  refine ⟨fun c' ti cmd hcl => ?_, fun c' tex hcl => ?_⟩ <;> split at hcl
  · rw [hcl] at hx; exact Nat.lt_succ_of_le hx
  · exact Nat.lt_succ_of_lt (h.invoked c' ti cmd hcl)
  · rw [hcl] at hx; exact Nat.lt_succ_of_le hx
  · exact Nat.lt_succ_of_lt (h.executed c' tex hcl)

end tick

theorem SysInv.step (step : S → C → R × S) (s0 : S) (s : Sys S C R) (a : Act C) (h : SysInv step s0 s) :
    SysInv step s0 (s.step step a) := by
  cases a with
  | inv c cmd =>
    simp only [Sys.step]
    split
    · have hcl := h.cl_tick c (.invoked s.time cmd) (Nat.le_refl _)
      exact { replay := h.replay, order := h.order, bounds := h.bounds_tick, resp := h.resp_tick,
              invoked := hcl.1, executed := hcl.2 }
    · exact h
  | exec c =>
    simp only [Sys.step]
    split
    · next ti cmd hc =>
      have hcl := h.cl_tick c (.executed s.time) (Nat.le_refl _)
      refine { replay := ?_, order := ?_, bounds := ?_, resp := h.resp_tick, invoked := hcl.1, executed := hcl.2 }
      · exact replayX_append step s0 s.execd s.store ⟨c, ti, s.time, cmd, (step s.store cmd).1⟩ h.replay rfl
      · refine List.pairwise_append.mpr ⟨h.order, List.pairwise_singleton _ _, ?_⟩
        intro a ha b hb
        cases List.mem_singleton.mp hb
        exact (h.bounds a ha).2
      · intro x hx
        rcases List.mem_append.mp hx with hx | hx
        · exact h.bounds_tick x hx
        · cases List.mem_singleton.mp hx
          exact ⟨h.invoked c ti cmd hc, Nat.lt_succ_self _⟩
    · exact h
  | res c =>
    simp only [Sys.step]
    split
    · next tex hc =>
      have hcl := h.cl_tick c .idle (Nat.zero_le _)
      refine { replay := h.replay, order := h.order, bounds := h.bounds_tick, resp := ?_, invoked := hcl.1, executed := hcl.2 }
      intro t r hr
      dsimp only at hr
      split at hr
      · next ht => cases hr; exact ⟨ht ▸ h.executed c tex hc, Nat.lt_succ_self _⟩
      · exact h.resp_tick t r hr
    · exact h

theorem SysInv.run (step : S → C → R × S) (s0 : S) (s : Sys S C R) (sched : List (Act C)) (h : SysInv step s0 s) :
    SysInv step s0 (s.run step sched) :=
  List.foldlRecOn sched _ h fun s hs a _ => SysInv.step step s0 s a hs

theorem replayOk_of_replayX (step : S → C → R × S) [DecidableEq R] (f : XOp C R → Op C R) (hf : ∀ x, (f x).cmd = x.cmd ∧ (f x).out = x.out)
    (s : S) (xs : List (XOp C R)) (sf : S) (h : ReplayX step s xs sf) : replayOk step s (xs.map f) = true := by
  induction xs generalizing s with
  | nil => rfl
  | cons x xs ih =>
    simp only [List.map_cons, replayOk, Bool.and_eq_true, beq_iff_eq]
    rw [(hf x).1, (hf x).2]
    exact ⟨h.1, ih _ h.2⟩

end system

omit [DecidableEq C] in
/-- the operations in the order in which they took effect are the witness: that order respects real time because
each effect instant lies between invocation and response, and it replays by `SysInv.replay` -/
theorem SysInv.linearizable {step : S → C → R × S} {s0 : S} {s : Sys S C R} (h : SysInv step s0 s) :
    Linearizable step s0 s.history := by
  refine atomic_linearizable step s0 (s.execd.map fun x => (s.toOp x, x.ex)) _ ⟨?_, ?_, ?_⟩ (by rw [List.map_map]; exact .refl _)
  · rw [List.pairwise_map]; exact h.order
  · intro p hp
    obtain ⟨x, hx, rfl⟩ := List.mem_map.1 hp
    have hb := h.bounds x hx
    refine ⟨hb.1, ?_⟩
    -- an operation whose response is still on its way counts as completed now
    simp only [Sys.toOp]
    cases hr : s.resOf x.ex with
    | none => exact hb.2
    | some r => exact (h.resp _ _ hr).1
  · simp only [List.map_map, Function.comp_def]
    exact replayOk_of_replayX step s.toOp (fun x => ⟨rfl, rfl⟩) s0 s.execd s.store h.replay

/-- **Every schedule of the serialized server yields a linearizable history** – any number of clients, any
commands, any interleaving of invocations, critical sections and responses. -/
theorem sys_linearizable (step : S → C → R × S) (s0 : S) (sched : List (Act C)) :
    Linearizable step s0 ((Sys.init s0 : Sys S C R).run step sched).history :=
  (SysInv.run step s0 _ sched (SysInv.init step s0)).linearizable

end GoRedis.Lin
