import GoRedisModel.Proofs.Translated
import GoRedisModel.Proofs.Chunked
/-! # C06 — the parser is total on hostile input -/
namespace GoRedis

/-- The three outcomes the property allows. -/
inductive Clean : IRes → Prop
  | value (v : Msg) (r : Reader) : noAbsent v = true → Clean (.ok v r)
  | eof : Clean .eof
  | err : Clean .err

/-- For *every* byte sequence, delivered in *any* segmentation, reading the next value ends with a value
that contains no absent element, a clean end of stream, or an error: never a run-time panic, never
non-termination (no `fuel` outcome; every loop of the model is structurally terminating). -/
theorem C06_total (r : Reader) : Clean (inext (r.rest.length + 1) r) := by
  have h := inext_spec (r.rest.length + 1) r (by omega)
  have hnf := parse_no_fuel (r.rest.length + 1) r.rest (by omega)
  cases hp : parse (r.rest.length + 1) r.rest <;> rw [hp] at h <;> have h := flat_eq_some h
  · obtain ⟨r', h, _⟩ := h
    exact h ▸ .value _ r' (parse_noAbsent _ _ _ _ hp)
  · exact h ▸ .eof
  · exact h ▸ .err
  · exact absurd hp hnf

/-- Same statement for the flat reference parser. -/
theorem C06_no_absent (f : Nat) (bs : Bytes) (m : Msg) (rest : Bytes)
    (h : parse f bs = .ok m rest) : noAbsent m = true := parse_noAbsent f bs m rest h

/-- A value always consumes at least one byte, so a stream of n bytes yields at most n values: the
connection loop's "next value" iteration terminates. -/
theorem C06_progress (f : Nat) (bs : Bytes) (m : Msg) (rest : Bytes)
    (h : parse f bs = .ok m rest) : rest.length < bs.length := parse_rest_lt f bs m rest h

/-- A declared bulk length above the limit is an error before anything is allocated or read. -/
theorem C06_bulk_limit (f : Nat) (ds rest : Bytes) (n : Int) (h1 : atoi (takeLine (ds ++ rest)).1 = some n)
    (h2 : n.toNat > maxBulk) (h3 : ¬ n < 0) : parse (f + 1) (bulkByte :: (ds ++ rest)) = .err := by
  rw [parse_cons, hdr_bulk, h1]
  simp only [if_neg h3, dif_pos h2]

/-- An array element that hits the end of the stream is an error, not an absent element. -/
theorem C06_truncated_array_is_error (f : Nat) : parse (f + 2) b!"*2\r\n$1\r\na\r\n" = .err := rfl

/-! ## Non-vacuity / witnesses of the formerly crashing inputs -/
example : parse 30 b!"$9223372036854775807\r\n" = .err := rfl
example : parse 30 b!"*99999999999999\r\n" = .err := rfl

/-- **The length test as translated from the current source** (regenerated on every run, §3a of DESIGN.md): in
`(*Parser).nextLengthBytes` the declared length is compared with the 512 MiB limit *before* anything is computed from it,
`num + 2` cannot wrap for a length that passed, and the number of bytes then read is the model's `need`; `MaxBulkLength`
is read from the source's constant declaration -/
theorem C06_source_bulk_length (num : Int) (h : inInt64 num = true) (h0 : 0 ≤ num) :
    Translated.bulkReadLength num =
      if num.toNat > maxBulk then .err "errorTooLongBulkString" else .ok ((num.toNat + 2 : Nat) : Int) :=
  Translated.bulkReadLength_eq num h h0

example : Translated.bulkReadLength 9223372036854775807 = .err "errorTooLongBulkString" ∧
    Translated.bulkReadLength 9223372036854775806 = .err "errorTooLongBulkString" ∧
    Translated.bulkReadLength 536870912 = .ok 536870914 ∧ Translated.bulkReadLength 536870913 = .err "errorTooLongBulkString" := by
  decide +kernel

end GoRedis
