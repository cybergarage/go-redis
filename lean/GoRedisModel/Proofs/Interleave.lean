import GoRedisModel.Proofs.Auth
import GoRedisModel.Model.Sys
/-! Several connections served by one server, in any interleaving of their requests. -/
namespace GoRedis

/-- a step, spelled out: on a connection that is alive it is `reqStep`, on any other it does nothing -/
theorem Sys.step_eq (pf : FloatOracle) (s : Sys) (i : Nat) (m : Msg) :
    (∃ c, s.conns[i]? = some (some c) ∧
      s.step pf i m =
        (let r := reqStep pf s.srv c m s.script
         ({ srv := (r.next.map Prod.snd).getD s.srv, conns := s.conns.set i (r.next.map Prod.fst), script := r.script },
          r.evs))) ∨
    ((∀ c, s.conns[i]? ≠ some (some c)) ∧ s.step pf i m = (s, [])) := by
  unfold Sys.step
  split
  · rename_i c hc
    exact .inl ⟨c, hc, by dsimp only; cases (reqStep pf s.srv c m s.script).next <;> rfl⟩
  · rename_i hne; exact .inr ⟨hne, rfl⟩

theorem Sys.step_frame (pf : FloatOracle) (s : Sys) (i j : Nat) (m : Msg) (hij : i ≠ j) :
    (s.step pf i m).1.conns[j]? = s.conns[j]? := by
  obtain ⟨c, _, h⟩ | ⟨_, h⟩ := Sys.step_eq pf s i m <;> simp [h, hij]

theorem Sys.step_events (pf : FloatOracle) (s : Sys) (j : Nat) (m : Msg) (e : Ev) (he : e ∈ (s.step pf j m).2) :
    ∃ c, s.conns[j]? = some (some c) ∧ e ∈ (reqStep pf s.srv c m s.script).evs := by
  obtain ⟨c, hc, h⟩ | ⟨_, h⟩ := Sys.step_eq pf s j m <;> rw [h] at he
  · exact ⟨c, hc, he⟩
  · cases he

theorem Sys.step_sameAuth (pf : FloatOracle) (s : Sys) (i : Nat) (m : Msg) : (s.step pf i m).1.srv.sameAuth s.srv := by
  obtain ⟨c, _, h⟩ | ⟨_, h⟩ := Sys.step_eq pf s i m <;> rw [h]
  · cases hn : (reqStep pf s.srv c m s.script).next with
    | none => simp [hn]
    | some p => simpa [hn] using (reqStep_connStep pf s.srv c m s.script p.1 p.2 hn).2
  · exact s.srv.sameAuth_refl

/-- a connection that is alive after a step was alive before; its state is `connStep` of its request if it is the one
that stepped, and untouched otherwise -/
theorem Sys.step_conn (pf : FloatOracle) (s : Sys) (i j : Nat) (m : Msg) (cj : ConnSt)
    (h : (s.step pf i m).1.conns[j]? = some (some cj)) :
    ∃ c, s.conns[j]? = some (some c) ∧ cj = if i = j then connStep s.srv c m else c := by
  by_cases hij : i = j
  · subst hij
    obtain ⟨c, hc, he⟩ | ⟨hne, he⟩ := Sys.step_eq pf s i m <;> rw [he] at h
    · rw [List.getElem?_set_self (List.getElem?_eq_some_iff.mp hc).1, Option.some.injEq] at h
      obtain ⟨p, hn, rfl⟩ := Option.map_eq_some_iff.mp h
      exact ⟨c, hc, by rw [if_pos rfl]; exact (reqStep_connStep pf s.srv c m s.script p.1 p.2 hn).1⟩
    · exact absurd h (hne cj)
  · exact ⟨cj, by rwa [Sys.step_frame pf s i j m hij] at h, by rw [if_neg hij]⟩

/-- the requests connection `i` itself has sent, in order -/
def own (i : Nat) (hist : List (Nat × Msg)) : List Msg :=
  hist.filterMap fun p => if p.1 = i then some p.2 else none

theorem own_append (i : Nat) (a b : List (Nat × Msg)) : own i (a ++ b) = own i a ++ own i b := by
  simp [own, List.filterMap_append]

/-- every connection's state is the fold of *its own* requests from its initial state -/
structure NIInv (srv0 : SrvSt) (c0 : Nat → ConnSt) (s : Sys) (hist : List (Nat × Msg)) : Prop where
  static : s.srv.sameAuth srv0
  state : ∀ i c, s.conns[i]? = some (some c) → c = (own i hist).foldl (connStep srv0) (c0 i)

theorem NIInv.step (pf : FloatOracle) (srv0 : SrvSt) (c0 : Nat → ConnSt) (s : Sys) (hist : List (Nat × Msg))
    (h : NIInv srv0 c0 s hist) (i : Nat) (m : Msg) : NIInv srv0 c0 (s.step pf i m).1 (hist ++ [(i, m)]) := by
  refine ⟨(Sys.step_sameAuth pf s i m).trans h.static, fun j cj hj => ?_⟩
  obtain ⟨c, hc, rfl⟩ := Sys.step_conn pf s i j m cj hj
  rw [own_append, List.foldl_append, ← h.state j c hc]
  by_cases hij : i = j
  · subst hij; simpa [own] using connStep_static s.srv srv0 c m h.static
  · simp [own, hij]

/-- **Where an event of an interleaved run comes from**: it is an event of one request `m0` of its own connection, and
that request started from the fold of `connStep` over the requests the connection itself had sent before – whatever
the schedule, the other connections and the handler did in between. -/
theorem Sys.run_event (pf : FloatOracle) (srv0 : SrvSt) (c0 : Nat → ConnSt) (s : Sys) (hist : List (Nat × Msg))
    (h : NIInv srv0 c0 s hist) (sched : List (Nat × Msg)) (i : Nat) (e : Ev) (he : (i, e) ∈ (Sys.run pf s sched).2) :
    ∃ pre m0 post srv' script', sched = pre ++ (i, m0) :: post ∧
      e ∈ (reqStep pf srv' ((own i (hist ++ pre)).foldl (connStep srv0) (c0 i)) m0 script').evs := by
  induction sched generalizing s hist with
  | nil => cases he
  | cons jm rest ih =>
    obtain ⟨j, mj⟩ := jm
    simp only [Sys.run, List.mem_append, List.mem_map] at he
    rcases he with ⟨e', he', heq⟩ | he
    · cases heq
      obtain ⟨c, hc, hev⟩ := Sys.step_events pf s i mj e he'
      exact ⟨[], mj, rest, s.srv, s.script, rfl, by rw [List.append_nil, ← h.state i c hc]; exact hev⟩
    · obtain ⟨pre, m0, post, srv', script', hs, hev⟩ := ih _ _ (h.step pf srv0 c0 s hist j mj) he
      exact ⟨(j, mj) :: pre, m0, post, srv', script', by simp [hs], by simpa [List.append_assoc] using hev⟩

end GoRedis
