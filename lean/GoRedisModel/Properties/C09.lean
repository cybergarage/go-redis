import GoRedisModel.Proofs.ControlFacts
import GoRedisModel.Model.Lifecycle
/-! # C09 — TLS client-certificate gate holds and failed handshakes are contained

`crypto/tls` with `RequireAndVerifyClientCert` is trusted to decide `verified` (the chain leads to the
configured CA and is currently valid); the model takes that verdict and the names on the presented chain. -/
namespace GoRedis

/-- **Served only if**: the handshake verified and — when a common-name rule is configured — the client's own
(leaf) certificate carries that name. -/
theorem C09_served_only_if (cfg : LifeCfg) (c : ClientCert) (h : tlsServed cfg c = true) :
    c.verified = true ∧ (cfg.cn = none ∨ cfg.cn = some c.leafCN) := by
  simp only [tlsServed, Bool.and_eq_true] at h
  refine ⟨h.1, ?_⟩
  cases hcn : cfg.cn with
  | none => exact Or.inl rfl
  | some name =>
    rw [hcn] at h
    exact Or.inr (congrArg some (eq_of_beq h.2).symm)

/-- a name carried only by an intermediate certificate of the chain does not satisfy the rule -/
theorem C09_intermediate_name_is_not_enough (cfg : LifeCfg) (c : ClientCert) (name : String)
    (hr : cfg.cn = some name) (hl : c.leafCN ≠ name) : tlsServed cfg c = false := by
  simp [tlsServed, hr, hl]

theorem C09_unverified_never_served (cfg : LifeCfg) (c : ClientCert) (h : c.verified = false) : tlsServed cfg c = false := by
  simp [tlsServed, h]

/-- a faulty TLS client has no command executed -/
theorem C09_no_command_for_rejected (cfg : LifeCfg) (s : LifeSt) (kind id : String)
    (hbad : tlsServed cfg (certIn s.ca kind) = false) :
    (lifeStepA cfg s (.tlsbad kind id)).2.calls = s.calls := by
  simp only [lifeStepA.eq_def, hbad, Bool.false_eq_true, if_false, apply_ite Prod.snd, apply_ite LifeSt.calls, ite_self]

/-- a client action — whatever kind of faulty TLS client included — never stops the server -/
def isClientAct : LifeAct → Bool
  | .start | .stop | .restart | .stopstorm | .setpw _ | .setca _ => false
  | _ => true

/-- what only the application controls — whether the server runs, and the CA its listener trusts — no client action
changes.  The projections are pushed through the `if`s of `lifeStepA` (`apply_ite`): no condition is split on.
(`lifeStepA.eq_def`, here and below, not `lifeStepA`: the per-case equations of its 28-way match take Lean seconds
to generate in every module that asks for them.) -/
theorem clientAct_frame (cfg : LifeCfg) (s : LifeSt) (a : LifeAct) (h : isClientAct a = true) :
    (lifeStepA cfg s a).2.running = s.running ∧ (lifeStepA cfg s a).2.ca = s.ca := by
  cases a with
  | start | stop | restart | stopstorm | setpw | setca => exact Bool.noConfusion h
  | _ => simp only [lifeStepA.eq_def, LifeSt.drop, apply_ite Prod.snd, apply_ite LifeSt.running, apply_ite LifeSt.ca, ite_self, and_self]

theorem clientActs_frame (cfg : LifeCfg) (s : LifeSt) (attempts : List LifeAct) (h : ∀ a ∈ attempts, isClientAct a = true) :
    (lifeFold cfg s attempts).running = s.running ∧ (lifeFold cfg s attempts).ca = s.ca :=
  List.foldlRecOn attempts _ (motive := fun st => st.running = s.running ∧ st.ca = s.ca) ⟨rfl, rfl⟩ fun st hst a ha =>
    have h1 := clientAct_frame cfg st a (h a ha)
    ⟨h1.1.trans hst.1, h1.2.trans hst.2⟩

/-- **Both listeners survive every sequence of client attempts** (any verdicts, any stalls, any number), and
every later verified client is still served. -/
theorem C09_listeners_survive (cfg : LifeCfg) (s : LifeSt) (attempts : List LifeAct)
    (h : ∀ a ∈ attempts, isClientAct a = true) (hr : s.running = true) :
    (lifeFold cfg s attempts).running = true :=
  (clientActs_frame cfg s attempts h).1.trans hr

/-- the CA a listener trusts is fixed while the server runs: no client action changes it -/
theorem C09_ca_fixed_by_clients (cfg : LifeCfg) (s : LifeSt) (attempts : List LifeAct)
    (h : ∀ a ∈ attempts, isClientAct a = true) : (lifeFold cfg s attempts).ca = s.ca :=
  (clientActs_frame cfg s attempts h).2

theorem C09_good_client_served_afterwards (cfg : LifeCfg) (s : LifeSt) (attempts : List LifeAct)
    (h : ∀ a ∈ attempts, isClientAct a = true) (hr : s.running = true) (ht : cfg.tls = true)
    (hcn : cfg.cn = none ∨ cfg.cn = some "client") (hca : s.ca = "main") :
    (lifeStepA cfg (lifeFold cfg s attempts) (.ping true "good")).1 = "ok" := by
  have hrun := C09_listeners_survive cfg s attempts h hr
  have hca' := C09_ca_fixed_by_clients cfg s attempts h
  have hserved : tlsServed cfg (certIn (lifeFold cfg s attempts).ca "good") = true := by
    rw [hca', hca]
    rcases hcn with hcn | hcn <;> simp [tlsServed, certIn, certOf, hcn]
  simp [lifeStepA.eq_def, LifeCfg.up, hrun, ht, hserved]

/-- **Only the CA in force**: whoever is served presented a chain issued by the CA the listener trusts now -/
theorem C09_only_current_ca (cfg : LifeCfg) (ca name : String) (h : tlsServed cfg (certIn ca name) = true) :
    issuerOf name = ca := by
  have hv : (certIn ca name).verified = true := (C09_served_only_if cfg _ h).1
  by_cases hm : ca = "main"
  · subst hm
    simp only [certIn, beq_self_eq_true, if_true] at hv
    unfold issuerOf
    split
    · exact absurd hv (by decide)
    · exact absurd hv (by decide)
    · exact absurd hv (by decide)
    · rfl
  · have hm' : (ca == "main") = false := by simpa using hm
    simp only [certIn, hm', Bool.false_eq_true, if_false, Bool.and_eq_true, beq_iff_eq] at hv
    exact hv.1

/-- a CA rotation takes effect with the next (re)start … -/
theorem C09_rotation_effective (cfg : LifeCfg) (s : LifeSt) (ca : String) :
    (lifeStepA cfg (lifeStepA cfg s (.setca ca)).2 .restart).2.ca = ca ∧
    (lifeStepA cfg s (.setca ca)).2.ca = s.ca := ⟨rfl, rfl⟩

/-- … and from then on a client of the retired CA is rejected without a command being executed, whatever the
common-name rule says -/
theorem C09_retired_ca_rejected (cfg : LifeCfg) (s : LifeSt) (name : String) (hr : s.running = true) (ht : cfg.tls = true)
    (hret : issuerOf name ≠ s.ca) :
    lifeStepA cfg s (.ping true name) = ("rejected", s) := by
  have hns : tlsServed cfg (certIn s.ca name) = false :=
    Bool.eq_false_iff.2 fun hs => hret (C09_only_current_ca cfg s.ca name hs)
  simp [lifeStepA.eq_def, LifeCfg.up, hr, ht, hns]

example :
    let cfg : LifeCfg := { tls := true, cn := some "client" }
    let s1 := lifeFold cfg {} [.start, .setca "foreign"]
    let s2 := lifeFold cfg {} [.start, .setca "foreign", .restart]
    (lifeStepA cfg s1 (.ping true "good")).1 = "ok" ∧ (lifeStepA cfg s1 (.ping true "foreign")).1 = "rejected" ∧
    (lifeStepA cfg s2 (.ping true "good")).1 = "rejected" ∧ (lifeStepA cfg s2 (.ping true "foreign")).1 = "ok" := by decide +kernel

/-- the property's credential table, decided: who is served under a common-name rule `client` -/
theorem C09_credential_table (cfg : LifeCfg) (h : cfg.cn = some "client") :
    tlsServed cfg (certOf "good") = true ∧ tlsServed cfg (certOf "none") = false ∧
    tlsServed cfg (certOf "selfsigned") = false ∧ tlsServed cfg (certOf "foreign") = false ∧
    tlsServed cfg (certOf "expired") = false ∧ tlsServed cfg (certOf "wrongcn") = false ∧
    tlsServed cfg (certOf "intercn") = false ∧ tlsServed cfg (certOf "straycn") = false ∧
    tlsServed cfg (certOf "straygood") = false := by
  simp [tlsServed, certOf, h]

/-- **The source is the one the model was written from** (regenerated on every run): the lifecycle functions (`Start`, `Stop`, `Restart`, `open`, `close`, `serve`, `tlsServe`, `startConn`) of the current source
have the fingerprints recorded in the model; a change to any of them means the theorems above are not shown for the code
as it is now, until the model has been compared with it again -/
theorem C09_source_lifecycle_is_the_modelled_one :
    lifecycleModelled.all (fun e => Generated.serverFingerprints.contains (e.1, e.2.1)) = true := source_lifecycle_is_the_modelled_one

end GoRedis
