import GoRedisModel.Proofs.ReverseBy
import GoRedisModel.Proofs.Translated
import GoRedisModel.Proofs.Loop
import GoRedisModel.Proofs.SourceFacts
import GoRedisModel.Model.Discipline
import GoRedisModel.Proofs.Sane
/-! # C07 — no client can crash the server or disturb other clients

In the model a Go run-time panic inside the connection goroutine is the event `crash`: it is caught by the
goroutine's barrier, the connection is unregistered and closed, nothing else is touched.  Whether the real
`receive` has that barrier is checked on every run (regenerated fact `Generated/Facts.lean`, and the tie's
oracle: no panic escapes the hook). -/
namespace GoRedis

/-- **Whatever one connection sends** (any byte stream) **and whatever the handler returns** (any script,
including nil messages, nil arrays, nil elements), the connection's trace begins with its registration and
ends with its removal from the registry and the closing of its socket: every way out of the loop — end of
stream, protocol error, QUIT, panic — runs the same two deferred releases. -/
theorem C07_connection_always_released (pf : FloatOracle) (srv : SrvSt) (requirePass : Bool) (input : Bytes) (script : List HRes) :
    ∃ body, serve pf srv requirePass input script = [Ev.register] ++ body ++ [.deregister, .close] :=
  ⟨_, rfl⟩

/-- A request that panics writes nothing, ends only its own connection, and leaves the server-wide state
alone: the loop has no successor state for it. -/
theorem C07_panic_is_contained (pf : FloatOracle) (srv : SrvSt) (conn : ConnSt) (m : Msg) (script : List HRes)
    (hc : crashedIn (reqStep pf srv conn m script).evs = true) :
    writesOf (reqStep pf srv conn m script).evs = [] ∧ (reqStep pf srv conn m script).next = none :=
  (reqStep_reply_or_crash pf srv conn m script).2 hc

/-- The server-wide state a request can change is the configuration, and only through the connection's
own CONFIG SET: a user command (one answered through the application's handler) leaves it untouched. -/
theorem C07_user_commands_leave_server_state (pf : FloatOracle) (srv : SrvSt) (conn : ConnSt) (cmd : Bytes) (args : List Msg)
    (p : Prog Out) (h : execUser pf srv conn cmd args = some p) (hs : upper cmd ∉ systemNames) :
    executeCommand pf srv conn cmd args = p.bind (fun o => .ret (o, conn, srv)) ∨ srv.hasHandler = false := by
  cases hh : srv.hasHandler with
  | false => exact .inr rfl
  | true => exact .inl (by simp [executeCommand, hh, execSystem_eq_none.mpr hs, h])

/-- **No client input can make a request panic when the application's handler honours its interface.**  A handler
result is *sane* when it is an error or a message without a nil pointer in it (no nil message, no nil array, no nil
element at any depth).  For every byte stream a client sends, every server state, with or without a password, and every
script of sane handler results, the trace of the connection contains no `crash`: every executor of the framework —
including the composed ones that interpret the handler's reply (INCR, APPEND, GETRANGE, MSETNX, SCARD, SISMEMBER,
ZREVRANGE, ZREVRANGEBYSCORE, HKEYS, HLEN …) — returns, whatever type of message the handler answered with, and what it
returns can be serialized.  (`Proofs/Sane`: a safety predicate over the interaction trees, proved for all 56 user
executors, the 7 nested ones and the 6 system ones, for arbitrary argument lists.) -/
theorem C07_sane_handler_never_crashes (pf : FloatOracle) (srv : SrvSt) (requirePass : Bool) (input : Bytes)
    (script : List HRes) (hs : saneScript script = true) :
    crashedIn (serve pf srv requirePass input script) = false := by
  simp only [serve_eq_steps, crashedIn_append, crashedIn, Bool.false_or, Bool.or_false]
  exact steps_sane pf srv _ _ (values_noAbsent input) script hs

/-- … and every request that was received completely is then answered with exactly one well-formed reply -/
theorem C07_sane_request_is_answered (pf : FloatOracle) (srv : SrvSt) (conn : ConnSt) (m : Msg) (hm : noAbsent m = true)
    (script : List HRes) (hs : saneScript script = true) :
    ∃ bs, writesOf (reqStep pf srv conn m script).evs = [bs] ∧ Frame bs :=
  (reqStep_reply_or_crash pf srv conn m script).1 (reqStep_sane pf srv conn m hm script hs).1

/-- the hypothesis is satisfiable (a handler answering with a bulk string, an array with a null bulk in it, or an error),
and it is needed: the empty script stands for a handler that returns `(nil, nil)` -/
example : saneScript [{ msg := .bulk (some b!"v") }, { msg := .arr [.bulk none, .line .int b!"1"] }, { err := some b!"ERR" }] = true := by
  decide
example : saneScript [] = false ∧ saneScript [{}] = false ∧ saneScript [{ msg := .arr [.absent] }] = false := by decide

/-! ## The inputs that used to kill the process, evaluated on the repaired model -/

def nf : FloatOracle := fun _ => none

/-- `*0` (empty command array): an error reply, and the next request is served -/
example : writesOf (serve nf {} false b!"*0\r\n*1\r\n$4\r\nPING\r\n" []) =
    [enc (.line .err errEmptyCommand.text), b!"+PONG\r\n"] := by decide +kernel

/-- a null command name -/
example : (writesOf (serve nf {} false b!"*1\r\n$-1\r\n*1\r\n$4\r\nPING\r\n" [])).length = 2 := by decide +kernel

/-- `GETRANGE k 0 3` on a 3-byte value (slice bounds out of range before the repair) -/
example : writesOf (serve nf {} false b!"*4\r\n$8\r\nGETRANGE\r\n$1\r\nk\r\n$1\r\n0\r\n$1\r\n3\r\n"
    [{ msg := .bulk (some b!"abc") }]) = [b!"$3\r\nabc\r\n"] := by decide +kernel

/-- GETRANGE on an empty value, and with start after end -/
example : writesOf (serve nf {} false b!"*4\r\n$8\r\nGETRANGE\r\n$1\r\nk\r\n$1\r\n0\r\n$2\r\n-1\r\n"
    [{ msg := .bulk (some []) }]) = [b!"$0\r\n\r\n"] := by decide +kernel
example : writesOf (serve nf {} false b!"*4\r\n$8\r\nGETRANGE\r\n$1\r\nk\r\n$1\r\n2\r\n$1\r\n1\r\n"
    [{ msg := .bulk (some b!"abc") }]) = [b!"$0\r\n\r\n"] := by decide +kernel

/-- a handler that returns nothing at all to a composite command: the connection is closed (a recovered
panic), nothing is written, the registry entry is removed -/
example : serve nf {} false b!"*2\r\n$4\r\nINCR\r\n$1\r\nk\r\n" [{}] =
    [.register, .rootStart, .spanStart b!"parse", .spanFinish, .spanStart b!"INCR", .hcall (.get b!"k") { authorized := true },
     .spanFinish, .crash, .deregister, .close] := by decide +kernel

/-- the recover barrier is present and is the first deferred call of the connection loop in the current source -/
theorem C07_source_recover_barrier :
    (factHolds "recoverBarrier" && factHolds "recoverBarrierFirst") = true := by decide +kernel

/-- no lock of the framework is taken twice by one goroutine in the current source (regenerated): no request can
leave a mutex held forever and with it freeze the other clients -/
theorem C07_source_no_reentrant_locking : factHolds "noReentrantLocking" = true := by decide +kernel

/-- **No slice or index expression of the translated source can panic** (regenerated on every run): the GETRANGE window
of `redis/sugar_commander.go` and the LIMIT / LINDEX code of the example store, translated statement for statement with
Go's panicking slice semantics, end in a value for every stored value and all 64-bit arguments – "out-of-range and
inverted indices" cannot take the request down -/
theorem C07_source_windows_never_panic (v : Bytes) (s e : Int) (hl : (v.length : Int) ≤ 9223372036854775807)
    (hs : inInt64 s = true) (he : inInt64 e = true) (l : List (Int × Bytes)) (els : List Bytes)
    (hel : (els.length : Int) ≤ 9223372036854775807) :
    Translated.getrangeWindow v s e ≠ .panic ∧ Translated.limitZSetMembers l s e ≠ .panic ∧
    Translated.listIndex els s ≠ .panic := by
  rw [Translated.getrange_eq v s e hl hs he, Translated.limit_eq, Translated.listIndex_eq els s hel hs]
  exact ⟨nofun, nofun, nofun⟩

/-- `(*Array).ReverseBy` as written never indexes out of range: whatever array a handler returns (odd lengths included)
and whatever the step, the loops end in a value (the pre-repair code panicked on an odd length with step 2) -/
theorem C07_ex_reverseBy_never_panics (es : List Msg) (step : Int) : Ex.reverseBy es step ≠ none := by
  rw [Ex.reverseBy_eq]; nofun

/-- **The source is the one the model was written from** (regenerated on every run): the connection loop (`serveConn`, `receive`, `dispatch`, `handleMessage`, `responseMessage`, `executeCommand`, `upperASCII`) of the current source
have the fingerprints recorded in the model; a change to any of them means the theorems above are not shown for the code
as it is now, until the model has been compared with it again -/
theorem C07_source_conn_loop_is_the_modelled_one :
    connLoopModelled.all (fun e => Generated.serverFingerprints.contains (e.1, e.2.1)) = true := source_conn_loop_is_the_modelled_one

end GoRedis
