import GoRedisModel.Model.RefStore
import GoRedisModel.Proofs.Args
namespace GoRedis

/-! ## The store as a finite map -/

theorem Store.get_put (s : Store) (k k2 : Bytes) (v : Val) :
    (s.put k v).get k2 = if k2 = k then some v else s.get k2 := by
  induction s with
  | nil => exact lookup_cons_ite ..
  | cons p rest ih =>
    obtain ⟨k', v'⟩ := p
    unfold Store.get at ih ⊢
    by_cases hk : k' = k
    · -- the entry that is replaced
      rw [Store.put, if_pos (beq_iff_eq.2 hk), hk, lookup_cons_ite, lookup_cons_ite]
      split <;> rfl
    · rw [Store.put, if_neg (mt beq_iff_eq.1 hk), lookup_cons_ite, lookup_cons_ite, ih]
      split
      · rename_i h2; rw [if_neg (h2 ▸ hk)]
      · rfl

theorem Store.get_del (s : Store) (k k2 : Bytes) : (s.del k).get k2 = if k2 = k then none else s.get k2 :=
  lookup_filter_ne s k k2

theorem Store.get_put_same (s : Store) (k : Bytes) (v : Val) : (s.put k v).get k = some v := by
  rw [Store.get_put, if_pos rfl]

theorem Store.get_put_other (s : Store) (k k2 : Bytes) (v : Val) (h : k2 ≠ k) : (s.put k v).get k2 = s.get k2 := by
  rw [Store.get_put, if_neg h]

theorem Store.get_del_same (s : Store) (k : Bytes) : (s.del k).get k = none := by
  rw [Store.get_del, if_pos rfl]

theorem Store.get_del_other (s : Store) (k k2 : Bytes) (h : k2 ≠ k) : (s.del k).get k2 = s.get k2 := by
  rw [Store.get_del, if_neg h]

/-! ## Index arithmetic

Every index window of the model and of the code is built from the same three steps: a negative index counts from the end
(`normIdx`), the start is clamped from below (`max 0`), the stop from above (`min (len - 1)`).  The steps are independent,
so each has its own lemmas; a proof about a window names the two clamped ends and is left with one case split, on whether
the window is empty. -/

/-- used right to left, to fold the code's `if i < 0 { i = len + i }` (proved by `rw`, not `rfl`: as a `rfl` lemma `simp only`
does not fold with it) -/
theorem normIdx_def (len i : Int) : normIdx len i = if i < 0 then len + i else i := by rw [normIdx]

theorem normIdx_of_nonneg {len i : Int} (h : 0 ≤ i) : normIdx len i = i := if_neg (by omega)

theorem normIdx_of_neg {len i : Int} (h : i < 0) : normIdx len i = len + i := if_pos h

theorem normIdx_mirror (n i : Int) : normIdx n (-i - 1) = n - 1 - normIdx n i := by
  unfold normIdx; omega

/-- the two clamping steps as the code writes them -/
theorem clamp_lo (x : Int) : (if x < 0 then 0 else x) = max 0 x := by omega

theorem clamp_hi (n x : Int) : (if n ≤ x then n - 1 else x) = min (n - 1) x := by omega

theorem max_zero_mirror (n y : Int) : max 0 (n - 1 - y) = n - 1 - min (n - 1) y := by omega

theorem min_pred_mirror (n x : Int) : min (n - 1) (n - 1 - x) = n - 1 - max 0 x := by omega

theorem rangeBounds_some (n : Nat) (start stop : Int) (s e : Nat) (h : rangeBounds n start stop = some (s, e)) :
    s ≤ e ∧ e < n := by
  unfold rangeBounds at h
  simp only at h
  split at h
  · nomatch h
  · obtain ⟨rfl, rfl⟩ := Prod.mk.inj (Option.some.inj h)
    omega

theorem rangeBounds_inrange (n : Nat) (a b : Int) (s e : Nat) (ha : normIdx n a = s) (hb : normIdx n b = e)
    (hse : s ≤ e) (hen : e < n) : rangeBounds n a b = some (s, e) := by
  rw [rangeBounds, ha, hb, Int.max_eq_right (Int.natCast_nonneg s), Int.min_eq_right (by omega),
    if_neg (Int.not_lt.2 (Int.ofNat_le.2 hse))]
  rfl

theorem rangeSlice_inrange {α : Type} (l : List α) (i j : Nat) (hij : i ≤ j) (hj : j < l.length) :
    rangeSlice l i j = (l.drop i).take (j + 1 - i) := by
  rw [rangeSlice, rangeBounds_inrange _ _ _ i j (normIdx_of_nonneg (Int.natCast_nonneg i))
    (normIdx_of_nonneg (Int.natCast_nonneg j)) hij hj]

theorem rangeSlice_all {α : Type} (l : List α) : rangeSlice l 0 (-1) = l := by
  cases l with
  | nil => rfl
  | cons x xs =>
    rw [rangeSlice, rangeBounds_inrange (x :: xs).length 0 (-1) 0 xs.length rfl
      (by rw [normIdx_of_neg (by decide), List.length_cons]; omega) (Nat.zero_le _) (Nat.lt_succ_self _)]
    exact List.take_of_length_le (Nat.le_refl _)

theorem rangeBounds_mirror (n : Nat) (i j : Int) :
    rangeBounds n (-j - 1) (-i - 1) = (rangeBounds n i j).map fun p => (n - 1 - p.2, n - 1 - p.1) := by
  unfold rangeBounds
  rw [normIdx_mirror, normIdx_mirror, max_zero_mirror, min_pred_mirror]
  have hs : 0 ≤ max 0 (normIdx n i) := Int.le_max_left ..
  generalize max 0 (normIdx n i) = s at hs
  generalize min ((n : Int) - 1) (normIdx n j) = e
  by_cases h : s > e
  · rw [if_pos h, if_pos (by omega)]; rfl
  · -- the window is not empty: its ends are natural numbers
    obtain ⟨s, rfl⟩ := Int.eq_ofNat_of_zero_le hs
    obtain ⟨e, rfl⟩ := Int.eq_ofNat_of_zero_le (Int.le_trans hs (Int.not_lt.1 h))
    rw [if_neg h, if_neg (by omega)]
    simp only [Option.map_some, Option.some.injEq, Prod.mk.injEq, Int.toNat_natCast]
    omega

theorem take_drop_reverse {α : Type} (l : List α) (s k : Nat) (h : s + k ≤ l.length) :
    (l.reverse.drop s).take k = ((l.drop (l.length - s - k)).take k).reverse := by
  rw [List.drop_reverse, List.take_reverse, List.drop_take, List.length_take, Nat.min_eq_left (by omega),
    show l.length - s - (l.length - s - k) = k by omega]

/-- **The reverse-order slice.**  Taking positions `i..j` of the reversed sequence (ZREVRANGE) is the same as
taking positions `-j-1 .. -i-1` of the sequence and reversing the result — for every length and all
indexes, negative and out of range included. -/
theorem rangeSlice_reverse {α : Type} (l : List α) (i j : Int) :
    rangeSlice l.reverse i j = (rangeSlice l (-j - 1) (-i - 1)).reverse := by
  unfold rangeSlice
  rw [List.length_reverse, rangeBounds_mirror]
  cases h : rangeBounds l.length i j with
  | none => rfl
  | some p =>
    obtain ⟨s, e⟩ := p
    obtain ⟨hse, he⟩ := rangeBounds_some _ _ _ _ _ h
    simp only [Option.map]
    rw [take_drop_reverse l s _ (by omega), show l.length - 1 - s + 1 - (l.length - 1 - e) = e + 1 - s by omega,
      show l.length - s - (e + 1 - s) = l.length - 1 - e by omega]

/-! ## `dedup` -/

theorem mem_dedup (l : List Bytes) (y : Bytes) : y ∈ dedup l ↔ y ∈ l := by
  induction l with
  | nil => rfl
  | cons a as ih =>
    rw [dedup]
    split
    · rename_i hc
      rw [ih, List.mem_cons, or_iff_right_of_imp]
      rintro rfl; exact List.contains_iff_mem.1 hc
    · rw [List.mem_cons, List.mem_cons, ih]

theorem dedup_nodup (l : List Bytes) : (dedup l).Nodup := by
  induction l with
  | nil => exact List.nodup_nil
  | cons x xs ih =>
    rw [dedup]
    split
    · exact ih
    · rename_i hx
      exact List.nodup_cons.2 ⟨fun hm => hx (List.contains_iff_mem.2 ((mem_dedup xs x).1 hm)), ih⟩

end GoRedis
