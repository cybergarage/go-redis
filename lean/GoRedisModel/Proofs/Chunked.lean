import GoRedisModel.Proofs.Reader
import GoRedisModel.Proofs.Total
namespace GoRedis

/-- the payload step of a bulk string over the transport (`bulkBody` on a flat stream) -/
def ibulk (k : Nat) (r : Reader) : IRes :=
  let b := lenLoop (k + 2) r (k + 2) []
  if b.1.length < k + 2 then .err
  else if b.1.drop k == CRLF then .ok (.bulk (some (b.1.take k))) b.2
  else .err

theorem maxBulk_add_two_le_maxAlloc : maxBulk + 2 ≤ maxAlloc := by decide

/-- `inext` in terms of `hdr`, as `parse_cons`; a length that passed the bulk limit is never too large to allocate -/
theorem inext_cons {f : Nat} {r r1 : Reader} {t : UInt8} {tl : Bytes} (h : r.read 1 = (t :: tl, r1)) :
    inext (f + 1) r =
      match hdr t (lineLoop (f + 1) r1 []).1 with
      | .arr n => ielems (inext f) n (lineLoop (f + 1) r1 []).2 []
      | .null => .ok (.bulk none) (lineLoop (f + 1) r1 []).2
      | .bulk k _ => ibulk k (lineLoop (f + 1) r1 []).2
      | .line ty => .ok (.line ty (lineLoop (f + 1) r1 []).1) (lineLoop (f + 1) r1 []).2
      | .bad => .err := by
  unfold inext hdr
  simp only [h]
  by_cases ha : (t == arrayByte) = true
  · rw [if_pos ha, if_pos ha]
    cases atoi (lineLoop (f + 1) r1 []).1 with
    | none => rfl
    | some n =>
      dsimp only
      by_cases hn : n < 0
      · rw [if_pos hn, Int.toNat_of_nonpos (Int.le_of_lt hn)]; rfl
      · rw [if_neg hn]
  · rw [if_neg ha, if_neg ha]
    by_cases hb : (t == bulkByte) = true
    · rw [if_pos hb, if_pos hb]
      cases atoi (lineLoop (f + 1) r1 []).1 with
      | none => rfl
      | some n =>
        dsimp only
        by_cases hn : n < 0
        · rw [if_pos hn, if_pos hn]
        · rw [if_neg hn, if_neg hn]
          by_cases hk : n.toNat > maxBulk
          · rw [if_pos hk, dif_pos hk]
          · rw [if_neg hk, dif_neg hk, if_neg (by have := maxBulk_add_two_le_maxAlloc; omega)]; rfl
    · rw [if_neg hb, if_neg hb]
      cases lineTy? t <;> rfl
theorem inext_nil (f : Nat) (r : Reader) (h : r.rest = []) : inext (f + 1) r = .eof := by
  rcases read_one r with ⟨_, r1, h1, _⟩ | ⟨b, r1, hb, _⟩
  · simp only [inext, h1]
  · rw [h] at hb; contradiction

/-- chunked outcome, flattened: the reader is replaced by the bytes it still holds; `none` = panic -/
def IRes.flat : IRes → Option PRes
  | .ok m r => some (.ok m r.rest)
  | .eof => some .eof
  | .err => some .err
  | .panic => none
  | .fuel => some .fuel

theorem flat_eq_some {x : IRes} {p : PRes} (h : x.flat = some p) :
    match p with
    | .ok m rest => ∃ r' : Reader, x = .ok m r' ∧ r'.rest = rest
    | .eof => x = .eof
    | .err => x = .err
    | .fuel => x = .fuel := by
  cases x <;> simp only [IRes.flat, Option.some.injEq, reduceCtorEq] at h <;> subst h
  · exact ⟨_, rfl, rfl⟩
  all_goals rfl

theorem ibulk_flat (k : Nat) (r : Reader) : (ibulk k r).flat = some (bulkBody k r.rest) := by
  obtain ⟨r', e, g⟩ := lenLoop_read (k + 2) r (k + 2) [] (Nat.le_refl _)
  have g := g [] (.inl rfl)
  simp only [Reader.frame_nil, List.nil_append] at g
  have hd : (r.rest.take (k + 2)).drop k = (r.rest.drop k).take 2 := by rw [List.drop_take]; simp
  have ht : (r.rest.take (k + 2)).take k = r.rest.take k := by rw [List.take_take]; simp
  unfold ibulk bulkBody
  simp only [g, List.length_take, hd, ht, show min (k + 2) r.rest.length < k + 2 ↔ r.rest.length < k + 2 by omega]
  split
  · rfl
  · split <;> simp [IRes.flat, e]

theorem ielems_spec (f : Nat)
    (ih : ∀ r : Reader, r.rest.length < f → (inext f r).flat = some (parse f r.rest))
    (n : Nat) (r : Reader) (acc : List Msg) (hr : r.rest.length < f) :
    (ielems (inext f) n r acc).flat = some (parseElems (parse f) n r.rest acc) := by
  induction n generalizing r acc with
  | zero => rfl
  | succ n ihn =>
    have h1 := ih r hr
    cases hp : parse f r.rest <;> rw [hp] at h1 <;> have hx := flat_eq_some h1
    · obtain ⟨r', hx, rfl⟩ := hx
      simp only [ielems, parseElems, hx, hp]
      exact ihn r' _ (by have := parse_rest_lt f _ _ _ hp; omega)
    all_goals simp only [ielems, parseElems, hx, hp, IRes.flat]

/-- **Chunking independence.**  The reader that mirrors `parser.go` over a transport delivering the stream
in arbitrary segments computes exactly what the flat reference parser computes on the concatenation, and
leaves exactly the unconsumed bytes in the transport. It never panics. -/
theorem inext_spec (f : Nat) (r : Reader) (hr : r.rest.length < f) :
    (inext f r).flat = some (parse f r.rest) := by
  induction f generalizing r with
  | zero => omega
  | succ f ih =>
    rcases read_one r with ⟨h0, _⟩ | ⟨t, r1, hrest, g1⟩
    · rw [inext_nil f r h0, h0]; rfl
    · have hlen := takeLine_length_le r1.rest
      rw [hrest, List.length_cons] at hr
      obtain ⟨r2, e2, g2⟩ := lineLoop_read (f + 1) r1 [] rfl (by omega)
      have g1 := g1 []
      have g2 := g2 [] (.inl rfl)
      simp only [Reader.frame_nil, List.nil_append] at g1 g2
      rw [e2.symm] at hlen
      simp only [inext_cons g1, hrest, parse_cons, g2, ← e2]
      cases hdr t (takeLine r1.rest).1 with
      | arr n => exact ielems_spec f ih n _ [] (by omega)
      | bulk k _ => exact ibulk_flat k r2
      | _ => rfl

end GoRedis
