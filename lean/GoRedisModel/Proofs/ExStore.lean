import GoRedisModel.Model.ExStore
import GoRedisModel.Proofs.RefStore
/-! The example store's loops (`Model/ExStore`) compute what the reference store (`Model/RefStore`) specifies. -/
namespace GoRedis.Ex
open GoRedis

/-! ## index ranges -/

/-- `clampRange` in the terms of the reference store: the two clamped ends, or `none` when they have crossed (its second
test, `length ≤ start`, never decides: the stop is below `length`) -/
theorem clampRange_window (len a b : Int) : clampRange len a b =
    if max 0 (normIdx len a) > min (len - 1) (normIdx len b) then none
    else some (max 0 (normIdx len a), min (len - 1) (normIdx len b)) := by
  have h : ∀ s y : Int, (min (len - 1) y < s ∨ len ≤ s) ↔ s > min (len - 1) y := by omega
  simp only [clampRange, clamp_lo, clamp_hi, ← normIdx_def, h]

theorem clampRange_eq (len a b : Int) :
    (clampRange len a b).map (fun p => (p.1.toNat, p.2.toNat)) = rangeBounds len a b := by
  rw [clampRange_window, rangeBounds]
  split <;> rfl

theorem range_eq {α : Type} (l : List α) (start stop : Int) : range l start stop = rangeSlice l start stop := by
  unfold range rangeSlice rangeBounds
  rw [clampRange_window]
  have hs : 0 ≤ max 0 (normIdx l.length start) := Int.le_max_left ..
  generalize max 0 (normIdx l.length start) = s at hs
  generalize min ((l.length : Int) - 1) (normIdx l.length stop) = e
  by_cases h : s > e
  · simp only [if_pos h]
  · simp only [if_neg h, slice, Int.toNat_add (Int.le_trans hs (Int.not_lt.1 h)) Int.one_nonneg, Int.toNat_one]

/-- `limitZSetMembers` is the reference store's `limitSlice`: its extra tests (an offset behind the end, a count beyond
the rest) select what `drop` and `take` select anyway -/
theorem limit_eq {α : Type} (l : List α) (offset count : Int) : limit l offset count = limitSlice l offset count := by
  simp only [limit, limitSlice]
  by_cases ho : offset < 0
  · rw [if_pos (Or.inl ho), if_pos ho]
  · rw [if_neg ho]
    by_cases hl : (l.length : Int) ≤ offset
    · rw [if_pos (Or.inr hl), List.drop_eq_nil_of_le (by omega), List.take_nil, ite_self]
    · rw [if_neg (not_or.2 ⟨ho, hl⟩)]
      by_cases hc : count < 0
      · rw [if_pos hc, if_neg (by omega)]
      · rw [if_neg hc]
        split
        · rfl
        · exact (List.take_of_length_le (by omega)).symm

/-- a bound that is not passed: the test `a < b` (`a ≤ b` when the bound is exclusive) fails iff `b ≤ a` (`b < a`) -/
theorem not_beyond (a b : Int) (ex : Bool) :
    (!((decide (a < b) && !ex) || (decide (a ≤ b) && ex))) = if ex then decide (b < a) else decide (b ≤ a) := by
  cases ex
  · simp [← Int.not_lt]
  · simp [← Int.not_le]

theorem inScore_eq (lo hi : Bound) (loEx hiEx : Bool) (score : Int) :
    inScore lo hi loEx hiEx score = inBound lo hi loEx hiEx score := by
  simp only [inScore, inBound]
  -- the two bounds are tested independently
  congr 1
  · cases lo with
    | fin l => exact not_beyond score l loEx
    | _ => rfl
  · cases hi with
    | fin h => exact not_beyond h score hiEx
    | _ => rfl

theorem zRangeByScore_eq (cur : List (Int × Bytes)) (lo hi : Bound) (loEx hiEx : Bool) (offset count : Int) :
    zRangeByScore cur lo hi loEx hiEx offset count =
      limitSlice (cur.filter fun p => inBound lo hi loEx hiEx p.1) offset count := by
  simp only [zRangeByScore, limit_eq, inScore_eq]

theorem zRange_eq (cur : List (Int × Bytes)) (start stop : Int) (rev : Bool) :
    zRange cur start stop rev 0 (-1) = rangeSlice (if rev then cur.reverse else cur) start stop := by
  unfold zRange
  rw [limit_eq, range_eq]
  rfl

/-! ## lists -/

theorem lpopLoop_acc {α : Type} (n : Nat) (l acc : List α) : lpopLoop n l acc = (acc ++ l.take n, l.drop n) := by
  induction n generalizing l acc with
  | zero => simp [lpopLoop]
  | succ n ih =>
    cases l with
    | nil => simp [lpopLoop]
    | cons e es => simp [lpopLoop, ih]

theorem rpopLoop_acc {α : Type} (n : Nat) (l acc : List α) :
    rpopLoop n l acc = (acc ++ l.reverse.take n, l.take (l.length - n)) := by
  induction n generalizing l acc with
  | zero => simp [rpopLoop]
  | succ n ih =>
    rcases List.eq_nil_or_concat l with rfl | ⟨init, e, rfl⟩
    · simp [rpopLoop]
    · rw [List.concat_eq_append]
      simp only [rpopLoop, List.getLast?_concat, List.dropLast_concat]
      rw [ih, List.reverse_append, List.length_append, List.length_singleton, Nat.add_sub_add_right,
        List.take_append_of_le_length (Nat.sub_le ..), List.append_assoc]
      rfl

theorem lpush_eq {α : Type} (l es : List α) : lpush l es = es.reverse ++ l := List.foldl_flip_cons_eq_append'

theorem index_eq {α : Type} (l : List α) (i : Int) : index l i = (rangeSlice l i i).head? := by
  unfold index rangeSlice rangeBounds
  simp only [← normIdx_def]
  generalize normIdx l.length i = x
  by_cases h : x < 0 ∨ (l.length : Int) - 1 < x
  · simp only [if_pos h, if_pos (show max 0 x > min ((l.length : Int) - 1) x by omega), List.head?_nil]
  · obtain ⟨h0, h1⟩ := not_or.1 h
    simp only [if_neg h, Int.max_eq_right (Int.not_lt.1 h0), Int.min_eq_right (Int.not_lt.1 h1),
      if_neg (Int.lt_irrefl x), List.head?_take, List.head?_drop, Nat.add_sub_cancel_left, if_neg Nat.one_ne_zero]

/-! ## splicing out the first hit -/

/-- in a container with one entry per key, splicing out the first entry of `m` removes every entry of `m` -/
theorem spliceFirst_key {α : Type} (key : α → Bytes) (m : Bytes) (l : List α) (h : (l.map key).Nodup) :
    spliceFirst (fun q => key q == m) l = (l.filter fun q => !(key q == m), l.any fun q => key q == m) := by
  induction l with
  | nil => rfl
  | cons x xs ih =>
    rw [List.map_cons, List.nodup_cons] at h
    rw [spliceFirst, List.filter_cons, List.any_cons]
    by_cases hx : key x = m
    · -- the hit: no other entry has this key
      have : xs.filter (fun q => !(key q == m)) = xs :=
        List.filter_eq_self.2 fun y hy => by simpa [← hx] using fun e => h.1 (List.mem_map.2 ⟨y, hy, e⟩)
      simp [hx, this]
    · simp [hx, ih h.2]

/-! ## sorted sets -/

theorem insertAtFirstGreater_eq (x : Int × Bytes) (l : List (Int × Bytes)) : insertAtFirstGreater x l = zInsert x l := by
  unfold insertAtFirstGreater
  induction l with
  | nil => rfl
  | cons y ys ih =>
    simp only [zInsert, List.findIdx?_cons]
    by_cases hxy : zLt x y = true
    · simp [hxy]
    · have hxy' : zLt x y = false := by simpa using hxy
      simp only [hxy', Bool.false_eq_true, if_false]
      rw [← ih]
      simp

theorem zAddOne_eq (cur : List (Int × Bytes)) (x : Int × Bytes) (h : (cur.map Prod.snd).Nodup) :
    zAddOne cur x = (zInsert x (cur.filter fun q => q.2 != x.2), !(cur.any fun q => q.2 == x.2)) := by
  unfold zAddOne
  rw [spliceFirst_key Prod.snd x.2 cur h]
  simp only [insertAtFirstGreater_eq, bne]

theorem zInsert_perm (x : Int × Bytes) (l : List (Int × Bytes)) : (zInsert x l).Perm (x :: l) := by
  induction l with
  | nil => exact List.Perm.refl _
  | cons y ys ih =>
    simp only [zInsert]
    split
    · exact List.Perm.refl _
    · exact (List.Perm.cons y ih).trans (List.Perm.swap x y ys)

theorem distinct_zInsert (x : Int × Bytes) (cur : List (Int × Bytes)) (h : (cur.map Prod.snd).Nodup) :
    ((zInsert x (cur.filter fun q => q.2 != x.2)).map Prod.snd).Nodup := by
  have hp := (zInsert_perm x (cur.filter fun q => q.2 != x.2)).map Prod.snd
  rw [hp.nodup_iff, List.map_cons, List.nodup_cons]
  constructor
  · intro hm
    rw [List.mem_map] at hm
    obtain ⟨q, hq, hqx⟩ := hm
    rw [List.mem_filter] at hq
    simp [hqx] at hq
  · exact (List.filter_sublist.map Prod.snd).nodup h

/-- the reference store's round of ZADD on decoded scores (`refHandle`, case `.zadd`) -/
def refZAddStep (acc : Int × List (Int × Bytes)) (x : Int × Bytes) : Int × List (Int × Bytes) :=
  let isNew := !(acc.2.any fun q => q.2 == x.2)
  (if isNew then acc.1 + 1 else acc.1, zInsert x (acc.2.filter fun q => q.2 != x.2))

theorem zAdd_eq (cur xs : List (Int × Bytes)) (h : (cur.map Prod.snd).Nodup) :
    (zAdd cur xs).1 = (xs.foldl refZAddStep (0, cur)).2 ∧ ((zAdd cur xs).2 : Int) = (xs.foldl refZAddStep (0, cur)).1 ∧
      ((zAdd cur xs).1.map Prod.snd).Nodup := by
  -- the two folds run side by side: same entries, same count, and the invariant that makes a round agree with the next
  refine List.foldl_rel (r := fun (a : List (Int × Bytes) × Nat) (b : Int × List (Int × Bytes)) =>
    a.1 = b.2 ∧ (a.2 : Int) = b.1 ∧ (a.1.map Prod.snd).Nodup) ⟨rfl, rfl, h⟩ ?_
  rintro x - ⟨l, n⟩ ⟨_, _⟩ ⟨rfl, rfl, hd⟩
  simp only [zAddOne_eq l x hd, refZAddStep, true_and]
  refine ⟨?_, distinct_zInsert x l hd⟩
  cases l.any fun q => q.2 == x.2 <;> simp

theorem zaddStep_fold (sc : ScoreTable) (ms : List (UInt64 × Bytes)) (acc : Int × List (Int × Bytes)) :
    ms.foldl (zaddStep sc) acc = (decodeScores sc ms).foldl refZAddStep acc := by
  rw [decodeScores, List.foldl_filterMap]
  congr
  funext acc p
  unfold zaddStep
  cases sc p.1 with
  | none => rfl
  | some b => cases b <;> rfl

/-! ## removing members: `Set.Rem`, `ZSet.Rem`, `Hash.Del`

The three loops do the same thing to a container of entries with keys: for each key of the request the entries under it
go, and the key counts when there was one.  `dropKey` is that round; `removeKeys_eq` says what a loop of such rounds
leaves and how often it counts, in the words of the reference store: a key of the request counts once (`dedup`) when the
container had it at the start.  What is left to show of each loop is that its round is `dropKey`. -/

/-- one round of a removal loop: the entries under `m` go, and `m` counts when there was one -/
def dropKey {α : Type} (key : α → Bytes) (acc : List α × Nat) (m : Bytes) : List α × Nat :=
  (acc.1.filter fun q => !(key q == m), if acc.1.any fun q => key q == m then acc.2 + 1 else acc.2)

theorem count_split (l : List Bytes) (f : Bytes) (P : Bytes → Bool) (hn : l.Nodup) :
    (l.filter P).length = (if f ∈ l ∧ P f = true then 1 else 0) + (l.filter fun g => !(g == f) && P g).length := by
  have hc : List.count f (l.filter P) = if f ∈ l.filter P then 1 else 0 := List.Nodup.count (hn.filter P)
  -- of the elements that satisfy `P`, count those equal to `f` (that is `hc`) and the others apart
  rw [List.length_eq_countP_add_countP (· == f), ← List.count_eq_countP, hc, List.countP_filter,
    List.countP_eq_length_filter]
  simp only [List.mem_filter, decide_not, Bool.decide_eq_true]

theorem dedup_filter_ne (m : Bytes) (ms : List Bytes) (P : Bytes → Bool) :
    (dedup (m :: ms)).filter (fun x => !(x == m) && P x) = (dedup ms).filter fun x => !(x == m) && P x := by
  simp only [dedup]
  split
  · rfl
  · simp

theorem dedup_cons_count (m : Bytes) (ms : List Bytes) (P : Bytes → Bool) :
    ((dedup (m :: ms)).filter P).length =
      (if P m then 1 else 0) + ((dedup ms).filter fun x => !(x == m) && P x).length := by
  rw [count_split _ m P (dedup_nodup _), dedup_filter_ne]
  simp [mem_dedup]

theorem any_filter_ne {α : Type} (key : α → Bytes) (cur : List α) (m m' : Bytes) :
    (cur.filter fun q => !(key q == m)).any (fun q => key q == m') = (!(m' == m) && cur.any fun q => key q == m') := by
  rw [Bool.eq_iff_iff]
  simp only [List.any_eq_true, List.mem_filter, Bool.and_eq_true, Bool.not_eq_true', beq_iff_eq, beq_eq_false_iff_ne]
  constructor
  · rintro ⟨q, ⟨hq, hne⟩, rfl⟩; exact ⟨hne, q, hq, rfl⟩
  · rintro ⟨hne, q, hq, rfl⟩; exact ⟨q, ⟨hq, hne⟩, rfl⟩

theorem removeKeys_eq {α : Type} (key : α → Bytes) (ms : List Bytes) (cur : List α) :
    ms.foldl (dropKey key) (cur, 0) =
      (let gone := (dedup ms).filter fun m => cur.any fun q => key q == m
       (cur.filter fun q => !gone.contains (key q), gone.length)) := by
  -- the loop from any state and count, in the words of the request
  have loop : ∀ (ms : List Bytes) (cur : List α) (n : Nat), ms.foldl (dropKey key) (cur, n) =
      (cur.filter fun q => !ms.contains (key q), n + ((dedup ms).filter fun m => cur.any fun q => key q == m).length) := by
    intro ms
    induction ms with
    | nil => exact fun cur n => Prod.ext (List.filter_eq_self.2 fun _ _ => rfl).symm rfl
    | cons m ms ih =>
      intro cur n
      rw [List.foldl_cons, dropKey, ih, dedup_cons_count, List.filter_filter]
      simp only [any_filter_ne]
      congr 1
      · apply List.filter_congr
        intro q _
        rw [List.contains_cons, Bool.not_or, Bool.and_comm]
      · split <;> omega
  rw [loop ms cur 0, Nat.zero_add]
  -- removing the keys of `gone` is removing the keys of the request
  refine Prod.ext (List.filter_congr fun q hq => ?_) rfl
  have hk : (cur.any fun q' => key q' == key q) = true := List.any_eq_true.2 ⟨q, hq, beq_self_eq_true (key q)⟩
  congr 1
  rw [Bool.eq_iff_iff]
  simp only [List.contains_iff_mem, List.mem_filter, mem_dedup, hk, and_true]

/-- on a container with one entry per key the round of `Set.Rem` and `ZSet.Rem`, splicing out the first hit, is `dropKey` -/
theorem remLoop_eq {α : Type} (key : α → Bytes) (ms : List Bytes) (cur : List α) (h : (cur.map key).Nodup) :
    ms.foldl (fun (acc : List α × Nat) m =>
        let r := spliceFirst (fun q => key q == m) acc.1
        (r.1, if r.2 then acc.2 + 1 else acc.2)) (cur, 0) = ms.foldl (dropKey key) (cur, 0) := by
  refine (List.foldl_rel (r := fun a b => a = b ∧ (b.1.map key).Nodup) ⟨rfl, h⟩ ?_).1
  rintro m - acc _ ⟨rfl, hd⟩
  exact ⟨by simp only [spliceFirst_key key m acc.1 hd, dropKey], (List.filter_sublist.map key).nodup hd⟩

theorem setRem_eq (cur ms : List Bytes) (h : cur.Nodup) :
    setRem cur ms =
      (let gone := (dedup ms).filter fun m => cur.contains m
       (cur.filter fun m => !gone.contains m, gone.length)) := by
  rw [setRem, remLoop_eq (fun x => x) ms cur ((List.map_id' cur).symm ▸ h), removeKeys_eq]
  -- a member is its own key, and the reference store asks `contains`
  simp only [List.any_beq']

theorem zRem_eq (cur : List (Int × Bytes)) (ms : List Bytes) (h : (cur.map Prod.snd).Nodup) :
    zRem cur ms =
      (let gone := (dedup ms).filter fun m => cur.any fun q => q.2 == m
       (cur.filter fun q => !gone.contains q.2, gone.length)) := by
  rw [zRem, remLoop_eq Prod.snd ms cur h, removeKeys_eq]

/-! ## `Set.Add` -/

theorem setAdd_inv (cur ms : List Bytes) (h : cur.Nodup) :
    (setAdd cur ms).1.Nodup ∧ (setAdd cur ms).1.length = cur.length + (setAdd cur ms).2 := by
  refine List.foldlRecOn ms _ (motive := fun (acc : List Bytes × Nat) => acc.1.Nodup ∧ acc.1.length = cur.length + acc.2)
    ⟨h, rfl⟩ ?_
  rintro ⟨l, n⟩ ⟨hn, hl⟩ m -
  dsimp only
  split
  · exact ⟨hn, hl⟩
  · rename_i hc
    refine ⟨List.nodup_append.2 ⟨hn, by simp, fun a ha b hb e => hc ?_⟩, by rw [List.length_append, hl]; rfl⟩
    rw [List.mem_singleton.1 hb] at e
    exact List.contains_iff_mem.2 (e ▸ ha)

/-! ## `ZSet.Score`, `ZSet.IncBy` -/

theorem zScore_eq (cur : List (Int × Bytes)) (m : Bytes) : zScore cur m = (cur.find? fun q => q.2 == m).map Prod.fst := by
  induction cur with
  | nil => rfl
  | cons q qs ih =>
    simp only [zScore, List.find?_cons]
    cases h : (q.2 == m) <;> simp [ih]

theorem zIncBy_eq (cur : List (Int × Bytes)) (d : Int) (m : Bytes) (h : (cur.map Prod.snd).Nodup) :
    zIncBy cur d m =
      (zInsert ((cur.find? fun q => q.2 == m).elim 0 Prod.fst + d, m) (cur.filter fun q => q.2 != m),
       (cur.find? fun q => q.2 == m).elim 0 Prod.fst + d) := by
  have hold : (zScore cur m).getD 0 = (cur.find? fun q => q.2 == m).elim 0 Prod.fst := by
    rw [zScore_eq]
    cases (cur.find? fun q => q.2 == m) <;> rfl
  unfold zIncBy
  rw [hold, spliceFirst_key Prod.snd m cur h]
  have hsub : ((cur.filter fun q => !(q.2 == m)).map Prod.snd).Nodup := (List.filter_sublist.map Prod.snd).nodup h
  simp only [zAddOne_eq _ _ hsub, List.filter_filter, bne, Bool.and_self]

/-! ## hash.go -/

theorem hashSet_eq (h : GoMap) (f v : Bytes) (nx : Bool) :
    hashSet h f v nx = (match h.lookup f with
      | some _ => if nx then (h, 0) else (h.map (fun p => if p.1 == f then (f, v) else p), 0)
      | none => (h ++ [(f, v)], 1)) := by
  unfold hashSet mapAssign
  cases h.lookup f <;> cases nx <;> rfl

theorem lookup_isSome_eq_any (h : GoMap) (f : Bytes) : (h.lookup f).isSome = h.any fun p => p.1 == f := by
  rw [Bool.eq_iff_iff]
  simp only [List.lookup_isSome_iff, List.any_eq_true, beq_iff_eq]
  constructor <;> rintro ⟨p, hp, e⟩ <;> exact ⟨p, hp, e.symm⟩

/-- the round of `Hash.Del` is `dropKey`: it tests for the field before it deletes, and deleting a field that is not
there changes nothing -/
theorem hashDel_round (acc : GoMap × Nat) (f : Bytes) :
    (if (acc.1.lookup f).isSome then (mapDelete acc.1 f, acc.2 + 1) else acc) = dropKey Prod.fst acc f := by
  rw [lookup_isSome_eq_any, dropKey]
  split
  · rfl
  · rename_i hno
    refine Prod.ext (List.filter_eq_self.2 fun p hp => ?_).symm rfl
    simpa using fun e => hno (List.any_eq_true.2 ⟨p, hp, by simpa using e⟩)

theorem hashDel_eq (h : GoMap) (fields : List Bytes) :
    hashDel h fields =
      (let gone := (dedup fields).filter fun f => (h.lookup f).isSome
       (h.filter fun p => !gone.contains p.1, gone.length)) := by
  simp only [hashDel, hashDel_round]
  rw [removeKeys_eq]
  -- the reference store asks `lookup` whether the hash had the field
  simp only [lookup_isSome_eq_any]

end GoRedis.Ex
