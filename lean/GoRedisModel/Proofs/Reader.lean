import GoRedisModel.Model.ParserImpl
/-! The transport and the two read loops of `parser.go`.  Each lemma says what is returned *and* what is left of the
transport when further segments `later` lie behind the reader (`Reader.frame`): the same reader in front of the same
`later`, as long as the read did not run into the end of `r` – or there is nothing behind it (`later = []`, the end of
the stream), which is the case the chunking theorems use. -/
namespace GoRedis

/-- `r` with further segments behind it; a read on an exhausted `r` would be the blocking read that waits for the
client's next request -/
def Reader.frame (r : Reader) (later : List Bytes) : Reader := ⟨r.chunks ++ later⟩

@[simp] theorem Reader.frame_nil (r : Reader) : r.frame [] = r := by simp [Reader.frame]

theorem dropEmpty_cases (cs : List Bytes) :
    (cs.flatten = [] ∧ dropEmpty cs = []) ∨
    ∃ b c cs', cs.flatten = b :: c ++ cs'.flatten ∧ ∀ later, dropEmpty (cs ++ later) = (b :: c) :: (cs' ++ later) := by
  induction cs with
  | nil => exact .inl ⟨rfl, rfl⟩
  | cons c cs ih =>
    cases c with
    | nil => exact ih
    | cons b c => exact .inr ⟨b, c, cs, rfl, fun _ => rfl⟩

theorem read_cases (r : Reader) (n : Nat) :
    (r.rest = [] ∧ ∃ r', r.read (n + 1) = ([], r') ∧ r'.rest = []) ∨
    ∃ b bs, ∃ r' : Reader, bs.length ≤ n ∧ r.rest = b :: bs ++ r'.rest ∧
      ∀ later, (r.frame later).read (n + 1) = (b :: bs, r'.frame later) := by
  rcases dropEmpty_cases r.chunks with ⟨h0, h⟩ | ⟨b, c, cs, h0, h⟩
  · exact .inl ⟨h0, ⟨[]⟩, by simp [Reader.read, h], rfl⟩
  · refine .inr ⟨b, c.take n, ⟨c.drop n :: cs⟩, List.length_take_le n c, ?_, fun later => ?_⟩
    · simp [Reader.rest, h0, ← List.append_assoc]
    · simp [Reader.read, Reader.frame, h]

theorem read_one (r : Reader) :
    (r.rest = [] ∧ ∃ r', r.read 1 = ([], r') ∧ r'.rest = []) ∨
    ∃ b, ∃ r' : Reader, r.rest = b :: r'.rest ∧ ∀ later, (r.frame later).read 1 = ([b], r'.frame later) := by
  rcases read_cases r 0 with h | ⟨b, bs, r', hl, hr, g⟩
  · exact .inl h
  · obtain rfl : bs = [] := List.eq_nil_of_length_eq_zero (by omega)
    exact .inr ⟨b, r', hr, g⟩

/-- `nextLineBytes` over any segmentation = `takeLine` on the concatenation; segments behind the reader are untouched
if the line, its CR and the byte after the CR are all there. -/
theorem lineLoop_read (k : Nat) (r : Reader) (acc : Bytes) {ln tl : Bytes} (ht : takeLine r.rest = (ln, tl))
    (hk : ln.length < k) :
    ∃ r' : Reader, r'.rest = tl ∧
      ∀ later, (later = [] ∨ ∃ x, r.rest = ln ++ CR :: x :: tl) →
        lineLoop k (r.frame later) acc = (acc ++ ln, r'.frame later) := by
  induction k generalizing r acc ln with
  | zero => omega
  | succ k ih =>
    rcases read_one r with ⟨h0, r1, g1, e1⟩ | ⟨b, r1, hr, g1⟩
    · obtain ⟨rfl, rfl⟩ : [] = ln ∧ [] = tl := by simpa [h0, takeLine] using ht
      refine ⟨r1, e1, fun later hc => ?_⟩
      obtain rfl : later = [] := by simpa [h0] using hc
      simp [lineLoop, g1]
    · rw [hr] at ht ⊢
      by_cases hb : b = CR
      · subst hb
        obtain ⟨rfl, rfl⟩ : [] = ln ∧ r1.rest.drop 1 = tl := by simpa [takeLine] using ht
        rcases read_one r1 with ⟨h0, r2, g2, e2⟩ | ⟨c, r2, hr2, g2⟩
        · refine ⟨r2, by simp [h0, e2], fun later hc => ?_⟩
          obtain rfl : later = [] := by simpa [h0] using hc
          have g1 : r.read 1 = ([CR], r1) := by simpa using g1 []
          simp [lineLoop, g1, g2]
        · exact ⟨r2, by simp [hr2], fun later _ => by simp [lineLoop, g1, g2]⟩
      · obtain ⟨rfl, rfl⟩ : b :: (takeLine r1.rest).1 = ln ∧ (takeLine r1.rest).2 = tl := by simpa [takeLine, hb] using ht
        obtain ⟨r2, e2, g2⟩ := ih r1 (acc ++ [b]) rfl (by simpa using hk)
        exact ⟨r2, e2, fun later hc => by
          simp [lineLoop, g1, hb, g2 later (by simpa using hc)]⟩

/-- the accumulate loop of `nextLengthBytes` over any segmentation = `take`/`drop` on the concatenation; segments
behind the reader are untouched if the `need` bytes are all there -/
theorem lenLoop_read (k : Nat) (r : Reader) (need : Nat) (acc : Bytes) (hk : need ≤ k) :
    ∃ r' : Reader, r'.rest = r.rest.drop need ∧
      ∀ later, (later = [] ∨ need ≤ r.rest.length) →
        lenLoop k (r.frame later) need acc = (acc ++ r.rest.take need, r'.frame later) := by
  induction k generalizing r need acc with
  | zero =>
    obtain rfl : need = 0 := by omega
    exact ⟨r, rfl, fun later _ => by simp [lenLoop]⟩
  | succ k ih =>
    cases need with
    | zero => exact ⟨r, rfl, fun later _ => by simp [lenLoop]⟩
    | succ n =>
      rcases read_cases r n with ⟨h0, r1, g1, e1⟩ | ⟨b, bs, r1, hl, hr, g1⟩
      · refine ⟨r1, by simp [h0, e1], fun later hc => ?_⟩
        obtain rfl : later = [] := by simpa [h0] using hc
        simp [lenLoop, g1, h0]
      · obtain ⟨r2, e2, g2⟩ := ih r1 (n - bs.length) (acc ++ b :: bs) (by omega)
        have hl' : (b :: bs).length ≤ n + 1 := Nat.succ_le_succ hl
        refine ⟨r2, ?_, fun later hc => ?_⟩
        · rw [e2, hr, List.drop_append, List.drop_of_length_le hl']
          simp
        · simp only [lenLoop, g1 later, Nat.add_one_ne_zero, if_false, List.length_cons, Nat.add_sub_add_right]
          rw [g2 later (hc.imp_right fun h => by simp [hr] at h; omega), hr, List.take_append, List.take_of_length_le hl']
          simp

end GoRedis
