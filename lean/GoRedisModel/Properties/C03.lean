import GoRedisModel.Proofs.SourceFacts
import GoRedisModel.Proofs.Loop
import GoRedisModel.Proofs.NoReadAhead
/-! # C03 — every command gets exactly one reply, in order, without needing more input -/
namespace GoRedis

/-- **The connection loop, on any pipeline of canonical values, is the request-level semantics `steps`**:
request after request — parse, execute, write the reply, and only then turn to the next one.  The fuel
`input.length + 1` that `serve` uses is always enough: nothing in the loop or in any executor spins. -/
theorem C03_loop_is_request_semantics (pf : FloatOracle) (ms : List Msg) (hw : wfs ms)
    (srv : SrvSt) (requirePass : Bool) (script : List HRes) :
    serve pf srv requirePass (encs ms) script =
      [Ev.register] ++ steps pf srv { authorized := !requirePass } ms script ++ [.deregister, .close] := by
  rw [serve_eq_steps, values_encs ms hw]

/-- **Exactly one reply per request**: a request's block of the trace contains exactly one write — a single
complete frame — unless the request ends in a recovered panic (then it contains none and the connection is
closed). -/
theorem C03_one_reply_each (pf : FloatOracle) (srv : SrvSt) (conn : ConnSt) (m : Msg) (script : List HRes) :
    (crashedIn (reqStep pf srv conn m script).evs = false →
      ∃ bs, writesOf (reqStep pf srv conn m script).evs = [bs] ∧ Frame bs) ∧
    (crashedIn (reqStep pf srv conn m script).evs = true →
      writesOf (reqStep pf srv conn m script).evs = [] ∧ (reqStep pf srv conn m script).next = none) :=
  reqStep_reply_or_crash pf srv conn m script

/-- **In order**: the writes of the whole connection are the replies of its requests, in request order. -/
theorem C03_replies_in_order (pf : FloatOracle) (ms : List Msg) (hw : wfs ms)
    (srv : SrvSt) (requirePass : Bool) (script : List HRes) :
    writesOf (serve pf srv requirePass (encs ms) script) =
      repliesOf pf srv { authorized := !requirePass } ms script := by
  rw [serve_writes, values_encs ms hw]

/-- never more replies than requests; exactly as many when no request ends the connection -/
theorem C03_reply_count (pf : FloatOracle) (ms : List Msg) (srv : SrvSt) (conn : ConnSt) (script : List HRes) :
    (repliesOf pf srv conn ms script).length ≤ ms.length ∧
    (Alive pf srv conn ms script → (repliesOf pf srv conn ms script).length = ms.length) := by
  induction ms generalizing srv conn script with
  | nil => simp [repliesOf]
  | cons m ms ih =>
    simp only [repliesOf, Alive, List.length_append, List.length_cons]
    cases hc : crashedIn (reqStep pf srv conn m script).evs with
    | true =>
      obtain ⟨hw, hn⟩ := (reqStep_reply_or_crash pf srv conn m script).2 hc
      simp [hw, hn]
    | false =>
      obtain ⟨bs, hw, _⟩ := (reqStep_reply_or_crash pf srv conn m script).1 hc
      rw [hw, List.length_singleton]
      cases (reqStep pf srv conn m script).next with
      | none => simp
      | some p =>
        obtain ⟨c', s'⟩ := p
        obtain ⟨h1, h2⟩ := ih s' c' (reqStep pf srv conn m script).script
        dsimp only
        exact ⟨by omega, fun h => by rw [h2 h, Nat.add_comm]⟩

/-- **The reply is written before the next request is touched**: in the request-level trace the block of
request `m` — with its handler calls and its write — is complete before the block of the next request
starts (the next `rootStart`/parse). -/
theorem C03_reply_before_next (pf : FloatOracle) (srv : SrvSt) (conn : ConnSt) (m : Msg) (ms : List Msg) (script : List HRes) :
    ∃ tail, steps pf srv conn (m :: ms) script =
      [Ev.rootStart, .spanStart b!"parse", .spanFinish] ++ (reqStep pf srv conn m script).evs ++ tail :=
  by
    cases h : (reqStep pf srv conn m script).next with
    | none => exact ⟨[], by simp [steps, h]⟩
    | some p => exact ⟨steps pf p.2 p.1 ms (reqStep pf srv conn m script).script, by simp [steps, h]⟩

/-- **QUIT**: a request whose outcome ends the connection is the last thing in the trace — requests
pipelined behind it are neither executed nor answered, whatever they are. -/
theorem C03_quit_cuts_off (pf : FloatOracle) (srv : SrvSt) (conn : ConnSt) (m : Msg) (ms : List Msg) (script : List HRes)
    (h : (reqStep pf srv conn m script).next = none) :
    steps pf srv conn (m :: ms) script =
      [Ev.rootStart, .spanStart b!"parse", .spanFinish] ++ (reqStep pf srv conn m script).evs := by
  simp [steps, h]

/-- QUIT in any letter case, with any trailing arguments, on an authorized connection: the reply is `+OK`
and the connection ends. -/
theorem C03_quit_reply (pf : FloatOracle) (srv : SrvSt) (conn : ConnSt) (c : Bytes) (rest : List Msg) (script : List HRes)
    (hu : upper c = b!"QUIT") (ha : conn.authorized = true) (hh : srv.hasHandler = true) :
    writesOf (reqStep pf srv conn (.arr (B c :: rest)) script).evs = [b!"+OK\r\n"] ∧
    (reqStep pf srv conn (.arr (B c :: rest)) script).next = none := by
  -- the request is the system command QUIT, which passes the gate: its span, and the outcome `(+OK, ErrQuit)`
  have hrun : (handleMessage pf srv conn (.arr (B c :: rest))).run conn script =
      ([.spanStart b!"QUIT", .spanFinish], some (.quit okMsg, conn, srv), script) := by
    show (executeCommand pf srv conn c rest).run conn script = _
    rw [dispatch_system pf srv conn c rest hh (.inl ha) (x := (.quit okMsg, conn, srv)) (by rw [hu]; rfl), hu]
    rfl
  rw [reqStep_replied pf srv conn _ script hrun (bs := b!"+OK\r\n") (by decide)]
  exact ⟨rfl, rfl⟩

/-- **A handler error becomes an error reply and leaves the connection usable**: whatever the request,
if its outcome is an error the reply is one error frame and the loop goes on with the connection and
server state the executor left. -/
theorem C03_handler_error_usable (pf : FloatOracle) (srv : SrvSt) (conn : ConnSt) (m : Msg) (script : List HRes)
    (evs : List Ev) (e : Err) (conn' : ConnSt) (srv' : SrvSt) (script' : List HRes)
    (h : (handleMessage pf srv conn m).run conn script = (evs, some (.error e, conn', srv'), script')) :
    (reqStep pf srv conn m script).next = some (conn', srv') ∧
    writesOf (reqStep pf srv conn m script).evs = [enc (.line .err e.text)] := by
  have hw := (run_quiet conn (handleMessage pf srv conn m) script).1
  rw [h] at hw
  rw [reqStep_replied pf srv conn m script h rfl]
  exact ⟨rfl, by simp [writesOf_append, hw, writesOf, replyEvs]⟩

/-- a single-call command whose handler returns an error: the error text becomes the reply -/
theorem C03_handler_error_reply (r : HRes) (t : Bytes) (h : r.err = some t) : outOf r = .error { text := t } := by
  rw [outOf, h]

/-- **No spin in ZADD's flag loop**: ZADD with any of its flags in front of the first score reads on and
calls the handler once (this request made the connection goroutine spin forever before the repair). -/
theorem C03_zadd_flags_terminate (pf : FloatOracle) (k m score : Bytes) (v : UInt64) (hs : pf score = some v)
    (hnf : zaddFlag (upper score) { nx := true } = none) :
    execZAdd pf [B k, B b!"NX", B score, B m] = callRet (.zadd k [(v, m)] { nx := true }) := by
  have hnx : zaddFlag (upper b!"NX") {} = some { nx := true } := by decide
  simp [execZAdd, withArgs, nextString, nextStringRaw, B, msgStr, zaddHead, zaddPairs, hs, hnf, hnx]

/-! ## Non-vacuity -/

example : wfs [.arr [B b!"PING"], .arr [B b!"QUIT"], .arr [B b!"PING"]] := by
  simp [wfs, wf, B, maxBulk, maxInt]

/-- PING, QUIT, PING: two replies, `+PONG` then `+OK`; the PING behind QUIT is not answered -/
example : writesOf (serve (fun _ => none) {} false
    (encs [.arr [B b!"PING"], .arr [B b!"QUIT"], .arr [B b!"PING"]]) []) = [b!"+PONG\r\n", b!"+OK\r\n"] := by
  decide +kernel

/-! ## No read-ahead -/

/-- **No read-ahead**: to return a complete request the parser issues no read to the transport beyond the request's
own last byte – however the request itself is segmented (`pre`, any list of segments whose concatenation is the
request) and whatever segments (`later`) the client sends afterwards, they are still unopened when the value is
returned.  So the reply to a request is computed and written (`C03_reply_before_next`) before the server asks the
transport for anything that follows it: a client that waits for the reply before sending more is never left
waiting. -/
theorem C03_no_read_ahead (v : Msg) (hw : wf v) (pre later : List Bytes) (hpre : pre.flatten = enc v)
    (f : Nat) (hf : (enc v).length < f) (hd : depth v < f) :
    ∃ r0', inext f ⟨pre⟩ = .ok v r0' ∧ r0'.rest = [] ∧ inext f ⟨pre ++ later⟩ = .ok v ⟨r0'.chunks ++ later⟩ :=
  inext_frame f v ⟨pre⟩ [] later hw (by rw [Reader.rest, hpre, List.append_nil]) (by rw [Reader.rest, hpre]; exact hf) hd

/-- a request delivered in three segments, the next request already waiting behind it in two more: they are
still two unopened segments after the first request has been read -/
example : ∃ r0' : Reader, inext 40 ⟨[b!"*1\r\n$4", b!"\r\nPI", b!"NG\r\n"] ++ [b!"*1\r\n", b!"$4\r\nQUIT\r\n"]⟩ =
    .ok (.arr [.bulk (some b!"PING")]) ⟨r0'.chunks ++ [b!"*1\r\n", b!"$4\r\nQUIT\r\n"]⟩ ∧ r0'.rest = [] := by
  obtain ⟨r0', _, h2, h3⟩ := C03_no_read_ahead (.arr [.bulk (some b!"PING")]) (by simp [wf, wfs, maxBulk, maxInt])
    [b!"*1\r\n$4", b!"\r\nPI", b!"NG\r\n"] [b!"*1\r\n", b!"$4\r\nQUIT\r\n"] (by decide) 40 (by decide) (by decide)
  exact ⟨r0', h3, h2⟩

/-! ## The current source -/

/-- **The source is the one the model was written from** (regenerated on every run): the connection loop (`serveConn`, `receive`, `dispatch`, `handleMessage`, `responseMessage`, `executeCommand`, `upperASCII`) of the current source
have the fingerprints recorded in the model; a change to any of them means the theorems above are not shown for the code
as it is now, until the model has been compared with it again -/
theorem C03_source_conn_loop_is_the_modelled_one :
    connLoopModelled.all (fun e => Generated.serverFingerprints.contains (e.1, e.2.1)) = true := source_conn_loop_is_the_modelled_one

end GoRedis
