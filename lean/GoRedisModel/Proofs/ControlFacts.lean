import GoRedisModel.Model.Discipline
import GoRedisModel.Model.Lifecycle
/-! What the lifecycle and lock properties (C09, C14, C15) rest on in /repo's source, re-checked on every run against the
tables `bin/extract` has just regenerated.  These need nothing of the protocol model, so the modules about locks and
lifecycles do not import it. -/
namespace GoRedis
open Generated

/-- the lifecycle control flow the transition system `LS` models: Stop = close listeners, wait for the accept
loops, close the connections, wait for their goroutines; accept loops close their own listener only; a connection
is registered before its goroutine is started and the TLS handshake runs inside that goroutine; the goroutines
Start spawns read no listener or TLS-configuration field of the server (they own the values they were started with) -/
theorem source_lifecycle_matches_transition_system : lifecycleFactsOK = true := by decide +kernel

/-- the lifecycle functions of the current source are the ones `Model/Lifecycle` and `Model/LifeSys` were written from -/
theorem source_lifecycle_is_the_modelled_one :
    lifecycleModelled.all (fun e => serverFingerprints.contains (e.1, e.2.1)) = true := by decide +kernel

end GoRedis
