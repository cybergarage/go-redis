import GoRedisModel.Proofs.Chunked
import GoRedisModel.Proofs.Parse
/-! The parser does not read ahead: reading a well-formed value from a transport whose next segments are
`later` leaves `later` untouched – no read is issued to the transport beyond the bytes of the value itself. -/
namespace GoRedis

/-- A type byte and a complete header line (the line, CR and LF are there): what `inext` goes on with, nothing behind
the reader touched so far. -/
theorem inext_header (f : Nat) (r : Reader) (t : UInt8) (ln tail : Bytes) (hr : r.rest = t :: (ln ++ CR :: LF :: tail))
    (ha : CR ∉ ln) (hk : ln.length ≤ f) :
    ∃ r' : Reader, r'.rest = tail ∧ ∀ later, inext (f + 1) (r.frame later) =
      match hdr t ln with
      | .arr n => ielems (inext f) n (r'.frame later) []
      | .null => .ok (.bulk none) (r'.frame later)
      | .bulk k _ => ibulk k (r'.frame later)
      | .line ty => .ok (.line ty ln) (r'.frame later)
      | .bad => .err := by
  rcases read_one r with ⟨h0, _⟩ | ⟨b, r1, hr1, g1⟩
  · rw [h0] at hr; contradiction
  · rw [hr] at hr1
    injection hr1 with hb hr1
    subst hb
    have ht := takeLine_append ln tail ha
    rw [hr1] at ht
    obtain ⟨r2, e2, g2⟩ := lineLoop_read (f + 1) r1 [] ht (by omega)
    exact ⟨r2, e2, fun later => by rw [inext_cons (g1 later), g2 later (.inr ⟨LF, hr1.symm⟩)]; rfl⟩

theorem ibulk_frame (r : Reader) (p tail : Bytes) (hr : r.rest = p ++ CR :: LF :: tail) :
    ∃ r' : Reader, r'.rest = tail ∧
      ∀ later, ibulk p.length (r.frame later) = .ok (.bulk (some p)) (r'.frame later) := by
  obtain ⟨r', e, g⟩ := lenLoop_read (p.length + 2) r (p.length + 2) [] (Nat.le_refl _)
  have ht : r.rest.take (p.length + 2) = p ++ [CR, LF] := by simp [hr, List.take_append, List.take_of_length_le]
  have hd : r.rest.drop (p.length + 2) = tail := by simp [hr, List.drop_append]
  exact ⟨r', e.trans hd, fun later => by simp [ibulk, g later (.inr (by simp [hr])), ht, CRLF]⟩

/-- the statement for one value: the unframed read returns `v` and leaves `tail`, and the framed read does the
same and leaves the frame untouched -/
def FrameOK (f : Nat) : Prop :=
  ∀ (v : Msg) (r : Reader) (tail : Bytes) (later : List Bytes), wf v → r.rest = enc v ++ tail → r.rest.length < f → depth v < f →
    ∃ r', inext f r = .ok v r' ∧ r'.rest = tail ∧ inext f (r.frame later) = .ok v (r'.frame later)

theorem ielems_frame (f : Nat)
    (ih : ∀ (v : Msg) (r : Reader) (tail : Bytes), wf v → r.rest = enc v ++ tail → (enc v).length < f →
      ∃ r' : Reader, r'.rest = tail ∧ ∀ later, inext f (r.frame later) = .ok v (r'.frame later))
    (es : List Msg) (hw : wfs es) (r : Reader) (tail : Bytes) (acc : List Msg)
    (hr : r.rest = encs es ++ tail) (hf : (encs es).length < f) :
    ∃ r' : Reader, r'.rest = tail ∧
      ∀ later, ielems (inext f) es.length (r.frame later) acc = .ok (.arr (acc.reverse ++ es)) (r'.frame later) := by
  induction es generalizing r acc with
  | nil => exact ⟨r, by simpa [encs] using hr, fun later => by simp [ielems]⟩
  | cons e es ihe =>
    simp only [encs, List.length_append] at hf
    obtain ⟨r1, h1, g1⟩ := ih e r (encs es ++ tail) hw.1 (by simpa [encs] using hr) (by omega)
    obtain ⟨r2, h2, g2⟩ := ihe hw.2 r1 (e :: acc) h1 (by omega)
    exact ⟨r2, h2, fun later => by simp [ielems, g1, g2]⟩

/-- **Reading a complete value touches nothing behind it**, with fuel above the value's own length, whatever follows:
the same reader `r'` is left in front of every `later`. -/
theorem inext_complete (f : Nat) (v : Msg) (r : Reader) (tail : Bytes) (hw : wf v) (hr : r.rest = enc v ++ tail)
    (hf : (enc v).length < f) :
    ∃ r' : Reader, r'.rest = tail ∧ ∀ later, inext f (r.frame later) = .ok v (r'.frame later) := by
  induction f generalizing v r tail with
  | zero => omega
  | succ f ih =>
    match v with
    | .line ty p =>
      rw [enc_line_append, sanitize_id p hw.1 hw.2] at hr
      obtain ⟨r2, h2, g2⟩ := inext_header f r _ p tail hr hw.1 (by simp [enc, sanitize] at hf; omega)
      exact ⟨r2, h2, fun later => by rw [g2, hdr_line]⟩
    | .bulk none =>
      rw [enc_null_append] at hr
      obtain ⟨r2, h2, g2⟩ := inext_header f r _ _ tail hr (by decide) (by simp [enc] at hf; simp; omega)
      exact ⟨r2, h2, fun later => by rw [g2, hdr_null]⟩
    | .bulk (some p) =>
      rw [enc_bulk_append] at hr
      obtain ⟨r2, h2, g2⟩ := inext_header f r _ _ _ hr (dec_no_cr _) (by simp [enc] at hf; omega)
      obtain ⟨r3, h3, g3⟩ := ibulk_frame r2 p tail h2
      exact ⟨r3, h3, fun later => by rw [g2, hdr_bulk_dec _ hw]; exact g3 later⟩
    | .arr es =>
      rw [enc_arr_append] at hr
      obtain ⟨r2, h2, g2⟩ := inext_header f r _ _ _ hr (dec_no_cr _) (by simp [enc] at hf; omega)
      obtain ⟨r3, h3, g3⟩ := ielems_frame f ih es hw.2 r2 tail [] h2 (by simp [enc] at hf; omega)
      exact ⟨r3, h3, fun later => by rw [g2, hdr_arr_dec _ hw.1]; exact g3 later⟩

theorem inext_frame (f : Nat) : FrameOK f := by
  intro v r tail later hw hr hf _
  obtain ⟨r', h1, h2⟩ := inext_complete f v r tail hw hr (by rw [hr] at hf; simp at hf; omega)
  exact ⟨r', by simpa using h2 [], h1, h2 later⟩

end GoRedis
