/-! Lock discipline ⇒ conflicting accesses are ordered by happens-before.

Traces of lock / unlock (exclusive or shared, as `sync.RWMutex`) and memory-access events of any number of
goroutines.  `wfL` is the mutual-exclusion guarantee of the mutex itself (trusted: the Go runtime).  The theorem:
in every well-formed trace in which each access is made while its goroutine holds the variable's guard (shared
suffices for a read, exclusive is needed for a write), two conflicting accesses of different goroutines are
separated by a release of the guard by the first goroutine followed by an acquisition by the second – which is a
synchronises-before edge of the Go memory model, i.e. the accesses are not a data race. -/
namespace GoRedis.Lockset

abbrev Tid := Nat
abbrev Lock := String
abbrev Var := String

inductive Ev where
  | acq (t : Tid) (l : Lock) (excl : Bool)
  | rel (t : Tid) (l : Lock) (excl : Bool)
  | acc (t : Tid) (v : Var) (write : Bool)
deriving DecidableEq, Repr

abbrev Holders := List (Tid × Bool)

/-- who holds lock `l` (and how) after the events, starting from `H` -/
def holders (l : Lock) : Holders → List Ev → Holders
  | H, [] => H
  | H, .acq t l' x :: es => holders l (if l' = l then (t, x) :: H else H) es
  | H, .rel t l' x :: es => holders l (if l' = l then H.erase (t, x) else H) es
  | H, .acc _ _ _ :: es => holders l H es

/-- what the mutex guarantees: an exclusive acquisition only of a free lock, a shared one only while no one
holds it exclusively, a release only by a holder -/
def wfL (l : Lock) : Holders → List Ev → Prop
  | _, [] => True
  | H, .acq t l' x :: es =>
    (l' = l → if x then H = [] else ∀ h ∈ H, h.2 = false) ∧ wfL l (if l' = l then (t, x) :: H else H) es
  | H, .rel t l' x :: es => (l' = l → (t, x) ∈ H) ∧ wfL l (if l' = l then H.erase (t, x) else H) es
  | H, .acc _ _ _ :: es => wfL l H es

/-- one event's effect on the holders of `l`, and what the mutex requires of it: `holders` and `wfL` are the
iterations of these two (`holders_cons`, `wfL_cons`), and every induction over a trace below goes through them -/
def Ev.upd (l : Lock) (H : Holders) : Ev → Holders
  | .acq t l' x => if l' = l then (t, x) :: H else H
  | .rel t l' x => if l' = l then H.erase (t, x) else H
  | .acc .. => H

def Ev.ok (l : Lock) (H : Holders) : Ev → Prop
  | .acq _ l' x => l' = l → if x then H = [] else ∀ h ∈ H, h.2 = false
  | .rel t l' x => l' = l → (t, x) ∈ H
  | .acc .. => True

theorem holders_cons (l : Lock) (H : Holders) (e : Ev) (es : List Ev) :
    holders l H (e :: es) = holders l (e.upd l H) es := by cases e <;> rfl

theorem wfL_cons (l : Lock) (H : Holders) (e : Ev) (es : List Ev) :
    wfL l H (e :: es) ↔ e.ok l H ∧ wfL l (e.upd l H) es := by
  cases e with
  | acc => exact ⟨fun h => ⟨trivial, h⟩, fun h => h.2⟩
  | _ => exact Iff.rfl

theorem holders_append (l : Lock) (H : Holders) (a b : List Ev) :
    holders l H (a ++ b) = holders l (holders l H a) b := by
  induction a generalizing H with
  | nil => rfl
  | cons e es ih => simp only [List.cons_append, holders_cons, ih]

theorem wfL_append (l : Lock) (H : Holders) (a b : List Ev) :
    wfL l H (a ++ b) ↔ wfL l H a ∧ wfL l (holders l H a) b := by
  induction a generalizing H with
  | nil => exact ⟨fun h => ⟨trivial, h⟩, fun h => h.2⟩
  | cons e es ih => simp only [List.cons_append, wfL_cons, holders_cons, ih, and_assoc]

/-- only its acquisition adds a holder -/
theorem mem_upd {l : Lock} {H : Holders} {e : Ev} {h : Tid × Bool} (hm : h ∈ e.upd l H) :
    h ∈ H ∨ e = .acq h.1 l h.2 := by
  cases e with
  | acq t l' x =>
    simp only [Ev.upd] at hm
    split at hm
    · next hl =>
      rcases List.mem_cons.mp hm with rfl | hm
      · exact Or.inr (by rw [hl])
      · exact Or.inl hm
    · exact Or.inl hm
  | rel t l' x =>
    simp only [Ev.upd] at hm
    split at hm
    · exact Or.inl (List.mem_of_mem_erase hm)
    · exact Or.inl hm
  | acc => exact Or.inl hm

/-- only its release removes a holder -/
theorem mem_upd_of_mem (l : Lock) (e : Ev) {H : Holders} {h : Tid × Bool} (hm : h ∈ H) :
    h ∈ e.upd l H ∨ e = .rel h.1 l h.2 := by
  cases e with
  | acq t l' x => left; simp only [Ev.upd]; split <;> simp [hm]
  | rel t l' x =>
    simp only [Ev.upd]
    split
    · next hl =>
      by_cases hh : h = (t, x)
      · exact Or.inr (by rw [hh, hl])
      · exact Or.inl ((List.mem_erase_of_ne hh).mpr hm)
    · exact Or.inl hm
  | acc => exact Or.inl hm

/-- a holder that appears was acquired -/
theorem find_acq {l : Lock} {h : Tid × Bool} {mid : List Ev} {H : Holders}
    (h1 : h ∈ holders l H mid) : h ∈ H ∨ ∃ a c, mid = a ++ Ev.acq h.1 l h.2 :: c := by
  induction mid generalizing H with
  | nil => exact Or.inl h1
  | cons e es ih =>
    rw [holders_cons] at h1
    rcases ih h1 with hm | ⟨a, c, rfl⟩
    · rcases mem_upd hm with hm | rfl
      · exact Or.inl hm
      · exact Or.inr ⟨[], es, rfl⟩
    · exact Or.inr ⟨e :: a, c, rfl⟩

/-- the holder sets a mutex can be in: two holders, one of them exclusive, are the same goroutine -/
def Excl (H : Holders) : Prop := ∀ {t m t' m'}, (t, m) ∈ H → (t', m') ∈ H → m = true ∨ m' = true → t = t'

/-- what the mutex asks of an acquisition is that it conflicts with no present holder -/
theorem acq_compatible {l : Lock} {H : Holders} {t t' : Tid} {x m' : Bool} (hok : (Ev.acq t l x).ok l H)
    (hm : (t', m') ∈ H) : ¬ (x = true ∨ m' = true) := by
  have hok := hok rfl
  cases x with
  | true => rw [if_pos rfl] at hok; rw [hok] at hm; cases hm
  | false => cases hok _ hm; exact fun hex => hex.elim nofun nofun

theorem excl_upd {l : Lock} {H : Holders} {e : Ev} (hE : Excl H) (hok : e.ok l H) : Excl (e.upd l H) := by
  intro t1 m1 t2 m2 h1 h2 hex
  -- each of the two was a holder before, or is the one acquiring
  rcases mem_upd h1 with g1 | rfl
  · rcases mem_upd h2 with g2 | rfl
    · exact hE g1 g2 hex
    · exact (acq_compatible hok g1 hex.symm).elim
  · rcases mem_upd h2 with g2 | h
    · exact (acq_compatible hok g2 hex).elim
    · cases h; rfl

theorem excl_holders {l : Lock} {H : Holders} {es : List Ev} (hwf : wfL l H es) (hE : Excl H) :
    Excl (holders l H es) := by
  induction es generalizing H with
  | nil => exact hE
  | cons e es ih =>
    rw [wfL_cons] at hwf
    rw [holders_cons]
    exact ih hwf.2 (excl_upd hE hwf.1)

/-- **The mutex hands over.**  If `t` holds the lock at the start of `mid` and a different `t'` holds it at the end,
one of the two exclusively, then `t` released it and `t'` acquired it afterwards: `t` must let go, or the two would hold
it together at the end; and `t'` did not hold it before `t` let go, so it has acquired it since. -/
theorem handover {l : Lock} {H : Holders} {mid : List Ev} {t t' : Tid} {m m' : Bool} (hE : Excl H) (hwf : wfL l H mid)
    (hm : (t, m) ∈ H) (hm' : (t', m') ∈ holders l H mid) (hex : m = true ∨ m' = true) (hne : t ≠ t') :
    ∃ a b c, mid = a ++ Ev.rel t l m :: (b ++ Ev.acq t' l m' :: c) := by
  induction mid generalizing H with
  | nil => exact absurd (hE hm hm' hex) hne
  | cons e es ih =>
    rw [wfL_cons] at hwf
    rw [holders_cons] at hm'
    rcases mem_upd_of_mem l e hm with hm1 | rfl
    · obtain ⟨a, b, c, rfl⟩ := ih (excl_upd hE hwf.1) hwf.2 hm1 hm'
      exact ⟨e :: a, b, c, rfl⟩
    · rcases find_acq hm' with hin | ⟨b, c, rfl⟩
      · exact absurd (hE hm ((mem_upd hin).resolve_right nofun) hex) hne
      · exact ⟨[], b, c, rfl⟩

/-- every access is made under the variable's guard: exclusively for a write, at least shared for a read -/
def Disciplined (guard : Var → Lock) (tr : List Ev) : Prop :=
  ∀ pre t v w post, tr = pre ++ Ev.acc t v w :: post →
    (t, true) ∈ holders (guard v) [] pre ∨ (w = false ∧ (t, false) ∈ holders (guard v) [] pre)

/-- the two cases of `Disciplined` in one: the guard is held in a mode that suffices for the access -/
theorem sufficient_mode {H : Holders} {t : Tid} {w : Bool} (h : (t, true) ∈ H ∨ (w = false ∧ (t, false) ∈ H)) :
    ∃ m, (t, m) ∈ H ∧ (w = true → m = true) := by
  rcases h with h | ⟨rfl, h⟩
  · exact ⟨true, h, fun _ => rfl⟩
  · exact ⟨false, h, nofun⟩

/-- **Lock discipline ⇒ no data race.**  Two conflicting accesses (same variable, different goroutines, at
least one a write) in a disciplined well-formed trace are separated by `release(guard) by the first` …
`acquire(guard) by the second`. -/
theorem conflicting_accesses_ordered (guard : Var → Lock) (tr : List Ev)
    (hwf : ∀ l, wfL l [] tr) (hd : Disciplined guard tr)
    (pre mid post : List Ev) (t t' : Tid) (v : Var) (w w' : Bool)
    (htr : tr = pre ++ Ev.acc t v w :: (mid ++ Ev.acc t' v w' :: post))
    (hne : t ≠ t') (hconf : w = true ∨ w' = true) :
    ∃ a b c x x', mid = a ++ Ev.rel t (guard v) x :: (b ++ Ev.acq t' (guard v) x' :: c) := by
  subst htr
  have hw := hwf (guard v)
  rw [wfL_append, wfL_cons, wfL_append] at hw
  obtain ⟨hw1, -, hw2, -⟩ := hw
  -- the modes in which the two goroutines hold the guard at their accesses: one is exclusive, as one access is a write
  obtain ⟨m, hm, hmw⟩ := sufficient_mode (hd pre t v w _ rfl)
  have hB := hd (pre ++ Ev.acc t v w :: mid) t' v w' post (List.append_assoc pre (Ev.acc t v w :: mid) _).symm
  rw [holders_append, holders_cons] at hB
  obtain ⟨m', hm', hmw'⟩ := sufficient_mode hB
  obtain ⟨a, b, c, rfl⟩ := handover (excl_holders hw1 nofun) hw2 hm hm' (hconf.imp hmw hmw') hne
  exact ⟨a, b, c, m, m', rfl⟩

/-! ## From per-function lock brackets to discipline

Each framework function that touches a shared field has the shape `mu.Lock(); defer mu.Unlock(); … accesses …`
(or `RLock`/`RUnlock`) – the extractor computes, for every access site, the lock mode held there.  `Follows` is
that block structure at the level of traces: a goroutine acquires a lock it does not hold, releases what it
holds, and accesses a variable only while it holds the variable's guard in a sufficient mode. -/

abbrev Cur := Tid → Lock → Option Bool

def Cur.set (c : Cur) (t : Tid) (l : Lock) (v : Option Bool) : Cur :=
  fun t' l' => if t' = t ∧ l' = l then v else c t' l'

def Follows (guard : Var → Lock) : Cur → List Ev → Prop
  | _, [] => True
  | c, .acq t l x :: es => c t l = none ∧ Follows guard (c.set t l (some x)) es
  | c, .rel t l x :: es => c t l = some x ∧ Follows guard (c.set t l none) es
  | c, .acc t v w :: es => (∃ x, c t (guard v) = some x ∧ (x = true ∨ w = false)) ∧ Follows guard c es

/-- what a goroutine believes it holds, the mutex agrees it holds -/
def Agree (c : Cur) (H : Lock → Holders) : Prop := ∀ t l x, c t l = some x → (t, x) ∈ H l

/-- one event's effect on what its goroutine believes it holds (`Follows` iterates it, as `holders` iterates `Ev.upd`) -/
def Ev.cur (c : Cur) : Ev → Cur
  | .acq t l x => c.set t l (some x)
  | .rel t l _ => c.set t l none
  | .acc .. => c

theorem follows_tail (guard : Var → Lock) (c : Cur) (e : Ev) (es : List Ev) (hf : Follows guard c (e :: es)) :
    Follows guard (e.cur c) es := by cases e <;> exact hf.2

theorem agree_step (c : Cur) (H : Lock → Holders) (e : Ev) (hag : Agree c H) :
    Agree (e.cur c) (fun l => e.upd l (H l)) := by
  intro t2 l2 x2 h2
  cases e with
  | acq t1 l1 x1 =>
    simp only [Ev.cur, Cur.set] at h2
    split at h2
    · next hq => cases h2; simp [Ev.upd, hq.1, hq.2]
    · exact (mem_upd_of_mem l2 (.acq t1 l1 x1) (hag t2 l2 x2 h2)).resolve_right nofun
  | rel t1 l1 x1 =>
    simp only [Ev.cur, Cur.set] at h2
    split at h2
    · cases h2
    · next hq =>
      -- an older belief is about another goroutine or lock than the one released
      rcases mem_upd_of_mem l2 (.rel t1 l1 x1) (hag t2 l2 x2 h2) with h | h
      · exact h
      · cases h; exact absurd ⟨rfl, rfl⟩ hq
  | acc => exact hag t2 l2 x2 h2

theorem follows_disciplined_aux (guard : Var → Lock) (c : Cur) (H : Lock → Holders) (hag : Agree c H)
    (pre : List Ev) (t : Tid) (v : Var) (w : Bool) (post : List Ev) (hf : Follows guard c (pre ++ Ev.acc t v w :: post)) :
    (t, true) ∈ holders (guard v) (H (guard v)) pre ∨ (w = false ∧ (t, false) ∈ holders (guard v) (H (guard v)) pre) := by
  induction pre generalizing c H with
  | nil =>
    obtain ⟨⟨x, hx, hm⟩, _⟩ := hf
    have := hag t (guard v) x hx
    cases x with
    | true => exact Or.inl this
    | false => exact Or.inr ⟨hm.resolve_left Bool.false_ne_true, this⟩
  | cons e pre ih =>
    rw [holders_cons]
    exact ih _ _ (agree_step c H e hag) (follows_tail guard c e _ hf)

theorem follows_disciplined (guard : Var → Lock) (tr : List Ev) (hf : Follows guard (fun _ _ => none) tr) :
    Disciplined guard tr := by
  intro pre t v w post he
  subst he
  exact follows_disciplined_aux guard _ (fun _ => []) (by intro t l x h; cases h) pre t v w post hf

/-- an unguarded pair *is* a possible race: the discipline is necessary for the theorem, not decoration -/
example : wfL "mu" [] [Ev.acc 1 "params" true, Ev.acc 2 "params" false] ∧
    ¬ Disciplined (fun _ => "mu") [Ev.acc 1 "params" true, Ev.acc 2 "params" false] := by
  refine ⟨by simp [wfL], ?_⟩
  intro h
  have := h [] 1 "params" true [Ev.acc 2 "params" false] rfl
  simp [holders] at this

/-- and a concrete two-goroutine run of two bracketed functions meets every hypothesis -/
example : (∀ l, wfL l [] [Ev.acq 1 "mu" true, Ev.acc 1 "params" true, Ev.rel 1 "mu" true,
      Ev.acq 2 "mu" false, Ev.acc 2 "params" false, Ev.rel 2 "mu" false]) ∧
    Follows (fun _ => "mu") (fun _ _ => none) [Ev.acq 1 "mu" true, Ev.acc 1 "params" true, Ev.rel 1 "mu" true,
      Ev.acq 2 "mu" false, Ev.acc 2 "params" false, Ev.rel 2 "mu" false] := by
  refine ⟨?_, ?_⟩
  · intro l
    by_cases h : "mu" = l <;> simp [wfL, h]
  · simp [Follows, Cur.set]

end GoRedis.Lockset
