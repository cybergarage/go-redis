import GoRedisModel.Proofs.SourceFacts
import GoRedisModel.Proofs.Spans
/-! # C20 — tracing spans are balanced for every request outcome

`spanRun` (in `Proofs/Spans`) is the span discipline as a depth machine over the trace: a root span is
started only when none is open; a child span only under an open root; `FinishSpan` pops a child that is
open; the root is finished exactly once, when no child is open.  With span ids handed out in start order
this is the statement "every span is started once and finished once, a child starts after its parent has
started and finishes before its parent finishes, one root per request". -/
namespace GoRedis

def Balanced (evs : List Ev) : Prop := spanRun evs none = some none

/-- the run ended in a recovered panic -/
def crashed : List Ev → Bool
  | [] => false
  | .crash :: _ => true
  | _ :: es => crashed es

theorem crashed_eq_crashedIn (evs : List Ev) : crashed evs = crashedIn evs := by
  induction evs with
  | nil => rfl
  | cons e es ih => cases e <;> simp [crashed, crashedIn, ih]

/-- For every client byte stream (valid or not, ended anywhere), every server state, authorized or not,
and every sequence of handler results: unless the run ends in a recovered panic (C07's subject), the span
events of the whole connection are balanced — whatever the outcome of each request: success, argument
error, unknown command, unauthorized, QUIT, protocol error, end of stream. -/
theorem C20_balanced (pf : FloatOracle) (srv : SrvSt) (requirePass : Bool) (input : Bytes) (script : List HRes)
    (hc : crashed (serve pf srv requirePass input script) = false) :
    Balanced (serve pf srv requirePass input script) := by
  rw [crashed_eq_crashedIn, Bool.eq_false_iff, Ne, crashedIn_iff, serve_eq_steps] at hc
  unfold Balanced
  rw [serve_eq_steps, List.append_assoc, List.singleton_append, spanRun, steps_spans]
  · rfl
  · exact fun h => hc (List.mem_append_left _ (List.mem_append_right _ h))

/-- Every command executor, including the ones composed from other commands (STRLEN→GET, HLEN→HKEYS→HGETALL,
SUBSTR→GETRANGE, …), leaves the span stack as it found it on every returning path, for all arguments, all
connection states and all handler results. -/
theorem C20_executor_balanced (pf : FloatOracle) (srv : SrvSt) (conn : ConnSt) (cmd : Bytes) (args : List Msg) :
    Bal 0 (executeCommand pf srv conn cmd args) := bal_executeCommand pf srv conn cmd args

/-- One request: root's children closed, root finished, nothing left open. -/
theorem C20_request_block (pf : FloatOracle) (srv : SrvSt) (conn : ConnSt) (m : Msg) (script : List HRes)
    (hc : Ev.crash ∉ (reqStep pf srv conn m script).evs) :
    spanRun ([Ev.rootStart, .spanStart b!"parse", .spanFinish] ++ (reqStep pf srv conn m script).evs) none = some none := by
  have := reqStep_spans pf srv conn m script hc []
  rwa [List.append_nil] at this

/-! ## Non-vacuity: concrete pipelines, evaluated -/

def noFloats : FloatOracle := fun _ => none

/-- SET, STRLEN (composed), an unknown command, GET without its argument, HLEN (two levels of composition), QUIT,
and a PING pipelined behind the QUIT -/
def samplePipeline : Bytes :=
  b!"*3\r\n$3\r\nSET\r\n$1\r\nk\r\n$3\r\nabc\r\n*2\r\n$6\r\nSTRLEN\r\n$1\r\nk\r\n*1\r\n$6\r\nNOSUCH\r\n*1\r\n$3\r\nGET\r\n*2\r\n$4\r\nHLEN\r\n$1\r\nh\r\n*1\r\n$4\r\nQUIT\r\n*1\r\n$4\r\nPING\r\n"

example : crashed (serve noFloats {} false samplePipeline [{ msg := .arr [] }]) = false := by decide +kernel
example : Balanced (serve noFloats {} false samplePipeline [{ msg := .arr [] }]) := by
  apply C20_balanced; decide +kernel

/-- unauthorized connection: every command but AUTH is refused, spans still balanced -/
example : Balanced (serve noFloats { authPw := some b!"secret" } true b!"*1\r\n$4\r\nPING\r\n*2\r\n$3\r\nGET\r\n$1\r\nk\r\n" []) := by
  apply C20_balanced; rfl

/-- stream cut inside a request -/
example : Balanced (serve noFloats {} false b!"*1\r\n$4\r\nPING\r\n*2\r\n$3\r\nGE" []) := by
  apply C20_balanced; rfl

/-- the discipline rejects a double finish and an unfinished child (the machine is not vacuous) -/
example : spanRun [.rootStart, .spanStart b!"x", .spanFinish, .spanFinish] none = none := rfl
example : spanRun [.rootStart, .spanStart b!"x", .topFinish] none = none := rfl

/-- **The source is the one the model was written from** (regenerated on every run): the connection loop (`serveConn`, `receive`, `dispatch`, `handleMessage`, `responseMessage`, `executeCommand`, `upperASCII`) of the current source
have the fingerprints recorded in the model; a change to any of them means the theorems above are not shown for the code
as it is now, until the model has been compared with it again -/
theorem C20_source_conn_loop_is_the_modelled_one :
    connLoopModelled.all (fun e => Generated.serverFingerprints.contains (e.1, e.2.1)) = true := source_conn_loop_is_the_modelled_one

end GoRedis
