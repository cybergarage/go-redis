import GoRedisModel.Proofs.Interleave
import GoRedisModel.Model.Discipline
/-! # C08 — password gate: nothing but AUTH runs before the exact password was presented -/
namespace GoRedis

/-- The gate with the call located: a handler call of connection `i` lies in the block of one of its requests, `m0`, and
among the requests `i` itself sent before `m0` there is an exact AUTH. -/
theorem gate_located (pf : FloatOracle) (pw : Bytes) (s : Sys) (hpw : s.srv.authPw = some pw)
    (hun : ∀ c, some c ∈ s.conns → c.authorized = false)
    (sched : List (Nat × Msg)) (i : Nat) (e : Ev) (he : (i, e) ∈ (Sys.run pf s sched).2) (hc : e.isCall = true) :
    ∃ pre m0 post srv' c script', sched = pre ++ (i, m0) :: post ∧ e ∈ (reqStep pf srv' c m0 script').evs ∧
      ∃ m ∈ own i pre, ExactAuthReq pw m := by
  -- the initial states: those of `s`; where `s` holds no live connection, the default one (which is not authorized)
  let c0 : Nat → ConnSt := fun j => (s.conns[j]?.getD none).getD {}
  have hc0 : ∀ j, (c0 j).authorized = false := fun j => by
    match hj : s.conns[j]? with
    | some (some c) => simpa [c0, hj] using hun c (List.mem_of_getElem? hj)
    | some none | none => simp [c0, hj]
  have hinv : NIInv s.srv c0 s [] := ⟨⟨rfl, rfl, rfl⟩, fun j cj hj => by simp [own, c0, hj]⟩
  -- the connection's state when the call happens is the fold of its own requests (`Sys.run_event`), and it is authorized
  obtain ⟨pre, m0, post, srv', script', hs, hev⟩ := Sys.run_event pf s.srv c0 s [] hinv sched i e he
  have hauth := reqStep_calls_need_authorization pf srv' _ m0 script' e hev hc
  obtain h0 | hx := foldl_connStep_gain s.srv pw hpw _ _ hauth
  · rw [hc0] at h0; cases h0
  · exact ⟨pre, m0, post, srv', _, script', hs, hev, hx⟩

/-- **The gate, for every interleaving.**  Several connections (any number), each sending any requests
(any values at all), processed in any global order: whenever the application's handler is called for
connection `i`, connection `i` *itself* has earlier sent an AUTH whose decoded credentials are exactly
"no user name, the configured password".  Nothing another connection does can stand in for it. -/
theorem C08_gate (pf : FloatOracle) (pw : Bytes) (s : Sys) (hpw : s.srv.authPw = some pw)
    (hun : ∀ c, some c ∈ s.conns → c.authorized = false)
    (sched : List (Nat × Msg)) (i : Nat) (e : Ev) (he : (i, e) ∈ (Sys.run pf s sched).2) (hc : e.isCall = true) :
    ∃ pre m0 post m, sched = pre ++ (i, m0) :: post ∧ (i, m) ∈ pre ∧ ExactAuthReq pw m := by
  obtain ⟨pre, m0, post, _, _, _, hs, _, m, hm, hx⟩ := gate_located pf pw s hpw hun sched i e he hc
  exact ⟨pre, m0, post, m, hs, by simpa [own] using hm, hx⟩

/-- **Authorization is per connection**: a step of connection `i` — its AUTH included — leaves the state of
every other connection exactly as it was. -/
theorem C08_per_connection (pf : FloatOracle) (s : Sys) (i j : Nat) (m : Msg) (hij : i ≠ j) :
    (s.step pf i m).1.conns[j]? = s.conns[j]? := Sys.step_frame pf s i j m hij

/-- how the two forms of AUTH are decoded -/
theorem authCreds_one (p : Bytes) : authCreds [B p] = .ok ([], p) := rfl
theorem authCreds_two (u p : Bytes) (rest : List Msg) : authCreds (B u :: B p :: rest) = .ok (u, p) := rfl
theorem authCreds_missing : ∃ e, authCreds [] = .error e := ⟨_, rfl⟩
theorem authCreds_null (rest : List Msg) : ∃ e, authCreds (.bulk none :: rest) = .error e := ⟨_, rfl⟩
theorem authCreds_null_password (u : Bytes) (rest : List Msg) : ∃ e, authCreds (B u :: .bulk none :: rest) = .error e := ⟨_, rfl⟩

/-- **Refusal**: an AUTH whose credentials are anything but exactly (no user, the password) — empty, a
prefix, an extension, a case variant, another user name, undecodable (missing or null) — is answered with
an error and leaves the connection's authorization as it was. -/
theorem C08_refusal (pf : FloatOracle) (srv : SrvSt) (conn : ConnSt) (cmd : Bytes) (args : List Msg) (pw : Bytes)
    (hh : srv.hasHandler = true) (hpw : srv.authPw = some pw) (hu : upper cmd = b!"AUTH")
    (hne : ∀ u p, authCreds args = .ok (u, p) → ¬ (u = [] ∧ p = pw)) :
    ∃ e c', executeCommand pf srv conn cmd args =
        .emit (.start b!"AUTH") (.emit .finish (.ret (.error e, c', srv))) ∧ c'.authorized = conn.authorized := by
  -- AUTH passes the gate whatever the connection's state: the outcome is that of `execSystem`
  have hd := fun x => dispatch_system pf srv conn cmd args (x := x) hh (.inr hu)
  rw [hu] at hd
  cases hcreds : authCreds args with
  | error e => exact ⟨e, conn, hd _ (by simp [execSystem, hcreds]), rfl⟩
  | ok up =>
    obtain ⟨u, p⟩ := up
    have hauth : authenticate srv { conn with user := u, pass := p, hasPass := true } = false :=
      Bool.eq_false_iff.mpr fun hb => hne u p hcreds (authenticate_exact srv pw u p conn hpw hb)
    exact ⟨{ text := b!"authrization failed" }, { conn with user := u, pass := p, hasPass := true },
      hd _ (by simp [execSystem, hcreds, hauth]), rfl⟩

/-- **A plain AUTH with the exact password always succeeds** (on a server without a certificate rule). -/
theorem C08_exact_succeeds (pf : FloatOracle) (srv : SrvSt) (conn : ConnSt) (cmd : Bytes) (args : List Msg) (pw : Bytes)
    (hh : srv.hasHandler = true) (hpw : srv.authPw = some pw) (hcert : srv.certAuth = false)
    (hx : IsExactAuth pw cmd args) :
    ∃ c', executeCommand pf srv conn cmd args =
        .emit (.start b!"AUTH") (.emit .finish (.ret (.reply okMsg, c', srv))) ∧ c'.authorized = true := by
  obtain ⟨hu, hcreds⟩ := hx
  refine ⟨{ conn with user := [], pass := pw, hasPass := true, authorized := true }, ?_, rfl⟩
  rw [dispatch_system pf srv conn cmd args hh (.inr hu) (x := (.reply okMsg, _, srv)), hu]
  simp [hu, execSystem, hcreds, authenticate, hpw, hcert]

/-- the dictionary of the property, refused one by one for the password `secret` -/
theorem C08_dictionary :
    (∀ p : Bytes, p ≠ b!"secret" → ¬ (([] : Bytes) = [] ∧ p = b!"secret")) ∧
    b!"" ≠ b!"secret" ∧ b!"secre" ≠ b!"secret" ∧ b!"secret1" ≠ b!"secret" ∧ b!"SECRET" ≠ b!"secret" ∧
    b!"secret\x00" ≠ b!"secret" := by
  refine ⟨fun p hp h => hp h.2, ?_, ?_, ?_, ?_, ?_⟩ <;> decide

/-! ## Non-vacuity: the formerly accepted `AUTH ""` -/
example : (writesOf (serve (fun _ => none) { authPw := some b!"secret" } true
    b!"*2\r\n$4\r\nAUTH\r\n$0\r\n\r\n*1\r\n$4\r\nPING\r\n" [])).length = 2 := by decide +kernel

/-- `AUTH ""` then PING: two error replies, no `+OK`, no `+PONG` -/
example : (writesOf (serve (fun _ => none) { authPw := some b!"secret" } true
    b!"*2\r\n$4\r\nAUTH\r\n$0\r\n\r\n*1\r\n$4\r\nPING\r\n" [])).all (fun w => w.head? == some 45) = true := by decide +kernel

/-- the exact password, then PING -/
example : writesOf (serve (fun _ => none) { authPw := some b!"secret" } true
    b!"*2\r\n$4\r\nAUTH\r\n$6\r\nsecret\r\n*1\r\n$4\r\nPING\r\n" []) = [b!"+OK\r\n", b!"+PONG\r\n"] := by decide +kernel

/-- in the current source the authorization check precedes the (single) executor call of command dispatch and exempts
only AUTH (regenerated on every run) -/
theorem C08_source_gate : (factHolds "authGateBeforeExecutor" && factHolds "authGateExemptsOnlyAuth") = true := by
  decide +kernel

end GoRedis
