import GoRedisModel.Generated.Facts
import GoRedisModel.Proofs.ReverseBy
import GoRedisModel.Proofs.Translated
import GoRedisModel.Proofs.Args
/-! # C12 — commands the framework implements itself follow Redis semantics

`refHandle` (Model/RefStore) gives the primitive handler operations the semantics of the Redis command
reference; the theorems below run the framework's own executors against it (`UProg.runH`) and state what
Redis defines for the composed command. -/
namespace GoRedis

variable (sc : ScoreTable)

/-! ## GETRANGE / SUBSTR: Redis index clamping, for every length, start and end -/

/-- non-negative indexes: the window from `start` to the clamped `stop` -/
theorem getRangeBounds_nonneg (len s e : Int) (hs : 0 ≤ s) (he : 0 ≤ e) :
    getRangeBounds len s e =
      if len = 0 ∨ s > min (len - 1) e then none else some (s.toNat, (min (len - 1) e).toNat) := by
  simp only [getRangeBounds, normIdx_of_nonneg hs, normIdx_of_nonneg he, Int.max_eq_right hs, Int.max_eq_right he,
    if_neg (fun h : s < 0 ∧ _ => Int.not_lt.2 hs h.1)]

/-- in-range non-negative indexes: exactly the bytes `start..end`, both inclusive -/
theorem C12_getrange_inrange (v : Bytes) (s e : Nat) (hse : s ≤ e) (he : e < v.length) :
    getRange v s e = (v.drop s).take (e + 1 - s) := by
  rw [getRange, getRangeBounds_nonneg _ _ _ (Int.natCast_nonneg s) (Int.natCast_nonneg e), Int.min_eq_right (by omega),
    if_neg (by omega), Int.toNat_natCast, Int.toNat_natCast]

/-- an end beyond the value is clamped to its last byte (this panicked before the repair) -/
theorem C12_getrange_end_clamped (v : Bytes) (s : Nat) (e : Int) (hs : s < v.length) (he : (v.length : Int) ≤ e) :
    getRange v s e = v.drop s := by
  rw [getRange, getRangeBounds_nonneg _ _ _ (Int.natCast_nonneg s) (by omega), Int.min_eq_left (by omega),
    if_neg (by omega), Int.toNat_natCast]
  exact List.take_of_length_le (by rw [List.length_drop]; omega)

/-- negative indexes count from the end -/
theorem C12_getrange_negative (v : Bytes) (s e : Int) (hs : s < 0) (he : e < 0) (hse : s ≤ e)
    (hs' : 0 ≤ (v.length : Int) + s) :
    getRange v s e = getRange v ((v.length : Int) + s) ((v.length : Int) + e) := by
  -- both pairs of indexes normalise to the same pair, and neither meets the "both negative, crossed" test
  simp only [getRange, getRangeBounds, normIdx_of_neg hs, normIdx_of_neg he, normIdx_of_nonneg hs',
    normIdx_of_nonneg (Int.le_trans hs' (Int.add_le_add_left hse _)),
    if_neg (fun h : s < 0 ∧ e < 0 ∧ s > e => Int.not_lt.2 hse h.2.2),
    if_neg (fun h : (v.length : Int) + s < 0 ∧ _ => Int.not_lt.2 hs' h.1)]

/-- start after end, or an empty value: the empty string (this panicked before the repair) -/
theorem C12_getrange_empty (v : Bytes) (s e : Int) (h : v = [] ∨ (0 ≤ s ∧ 0 ≤ e ∧ e < s)) : getRange v s e = [] := by
  have hb : getRangeBounds v.length s e = none := by
    rcases h with rfl | ⟨h1, h2, h3⟩
    · simp [getRangeBounds]
    · rw [getRangeBounds_nonneg _ _ _ h1 h2, if_pos (Or.inr (by omega))]
  rw [getRange, hb]

/-- the result is always a contiguous piece of the value: nothing is invented -/
theorem C12_getrange_infix (v : Bytes) (s e : Int) : ∃ a b, v = a ++ getRange v s e ++ b := by
  unfold getRange
  split
  · exact ⟨[], v, rfl⟩
  · rename_i lo hi _
    refine ⟨v.take lo, (v.drop lo).drop (hi + 1 - lo), ?_⟩
    rw [List.append_assoc, List.take_append_drop, List.take_append_drop]

/-- a missing key is the empty string, not a nil reply -/
theorem C12_getrange_missing_key (k : Bytes) (s e : Int) (st : Store) (h : st.get k = none) :
    UProg.runH (refHandle sc)
      (.call (.get k) fun r => match r.err with
        | some t => failE { text := t }
        | none => match r.msg with
          | .absent => .panic
          | m => match msgStr m with
            | .error _ => replyP (newBulk [])
            | .ok v => replyP (newBulk (getRange v s e))) st = (some (.reply (newBulk [])), st) := by
  simp [UProg.runH, refHandle, h, okRes, newNil, msgStr, replyP]

/-! ## ZREVRANGE: exactly the reverse-order slice, pairs intact -/

theorem C12_zrevrange_slice {α : Type} (l : List α) (i j : Int) :
    (rangeSlice l (-j - 1) (-i - 1)).reverse = rangeSlice l.reverse i j := (rangeSlice_reverse l i j).symm

/-- with WITHSCORES the reply is reversed pair-wise: each member stays in front of its own score -/
theorem C12_reverse_pairs_intact (ps : List (Msg × Msg)) :
    reverseEvenPairs (ps.flatMap fun p => [p.1, p.2]) = ps.reverse.flatMap fun p => [p.1, p.2] := by
  induction ps with
  | nil => rfl
  | cons p ps ih => simp [reverseEvenPairs, ih, List.flatMap_append]

theorem C12_reverse_pairs_even (ps : List (Msg × Msg)) :
    reversePairs (ps.flatMap fun p => [p.1, p.2]) = ps.reverse.flatMap fun p => [p.1, p.2] := by
  rw [Ex.reversePairs_even, C12_reverse_pairs_intact]
  -- left to show: a reply of pairs has even length
  induction ps with
  | nil => rfl
  | cons p ps ih => rw [List.flatMap_cons, List.length_append, Nat.add_mod, ih]; simp

/-! ## ZREVRANGEBYSCORE: the reversed range, LIMIT counted from the highest score -/

/-- a reply built from groups of `k` elements: dropping or taking `n` groups -/
theorem drop_groups {α β : Type} (f : α → List β) (k : Nat) (hk : ∀ a, (f a).length = k) (l : List α) (n : Nat) :
    (l.flatMap f).drop (n * k) = (l.drop n).flatMap f := by
  induction n generalizing l with
  | zero => simp
  | succ n ih =>
    cases l with
    | nil => simp
    | cons a as =>
      rw [List.flatMap_cons, List.drop_succ_cons, ← ih, Nat.succ_mul, Nat.add_comm, ← hk a, ← List.drop_drop,
        List.drop_left]

theorem take_groups {α β : Type} (f : α → List β) (k : Nat) (hk : ∀ a, (f a).length = k) (l : List α) (n : Nat) :
    (l.flatMap f).take (n * k) = (l.take n).flatMap f := by
  induction n generalizing l with
  | zero => simp
  | succ n ih =>
    cases l with
    | nil => simp
    | cons a as =>
      rw [List.flatMap_cons, List.take_succ_cons, List.flatMap_cons, ← ih, Nat.succ_mul, Nat.add_comm, ← hk a,
        List.take_length_add_append]

/-- LIMIT on a reply of `k`-element groups selects whole groups -/
theorem limitEntries_groups {α : Type} (f : α → List Msg) (k : Nat) (hk : ∀ a, (f a).length = k) (l : List α)
    (off cnt : Int) : limitEntries k off cnt (l.flatMap f) = (limitSlice l off cnt).flatMap f := by
  unfold limitEntries limitSlice
  split
  · rfl
  · simp only [drop_groups f k hk]
    split
    · rfl
    · rw [take_groups f k hk]

/-- LIMIT on a members-only reply selects whole members … -/
theorem C12_limit_members (ms : List Bytes) (off cnt : Int) :
    limitEntries 1 off cnt (ms.map newBulk) = (limitSlice ms off cnt).map newBulk := by
  rw [List.map_eq_flatMap, List.map_eq_flatMap]
  exact limitEntries_groups _ 1 (fun _ => rfl) ms off cnt

/-- … and on a WITHSCORES reply whole member/score pairs -/
theorem C12_limit_pairs (ps : List (Int × Bytes)) (off cnt : Int) :
    limitEntries 2 off cnt (ps.flatMap fun p => [newBulk p.2, newBulk (fmtScore p.1)])
      = (limitSlice ps off cnt).flatMap fun p => [newBulk p.2, newBulk (fmtScore p.1)] :=
  limitEntries_groups _ 2 (fun _ => rfl) ps off cnt

/-- **ZREVRANGEBYSCORE**: given the ascending range `sel` from the handler, the reply is the descending range with
LIMIT offset/count counted from the highest score, members in front of their own scores (`LIMIT 0 1` answered with
the lowest member before the repair) -/
theorem C12_zrevrangebyscore_reply (sel : List (Int × Bytes)) (off cnt : Int) (ws : Bool) :
    reverseReplyL off cnt ws (okRes (zMembers ws sel)) = replyP (zMembers ws (limitSlice sel.reverse off cnt)) := by
  cases ws with
  | false =>
    simp only [reverseReplyL, okRes, zMembers, Bool.false_eq_true, if_false, List.reverse_flatMap]
    rw [limitEntries_groups _ 1 (fun _ => rfl)]
    rfl
  | true =>
    simp only [reverseReplyL, okRes, zMembers, if_true]
    have := C12_reverse_pairs_even (sel.map fun p => (newBulk p.2, newBulk (fmtScore p.1)))
    simp only [List.flatMap_map] at this
    rw [this, ← List.map_reverse, List.flatMap_map, limitEntries_groups _ 2 (fun _ => rfl)]

/-- the framework asks the handler for the whole range (no LIMIT) with the bounds swapped into (min, max) -/
example : ∃ f, execZRangeByScore (fun _ => some 0) true [.bulk (some b!"z"), .bulk (some b!"(3"), .bulk (some b!"1"),
      .bulk (some b!"LIMIT"), .bulk (some b!"1"), .bulk (some b!"2")]
    = .call (.zrangebyscore b!"z" 0 0 { minex := false, maxex := true, offset := 0, count := -1 }) f := ⟨_, rfl⟩

/-! ## Counters: non-integers and overflow are rejected, nothing is written -/

theorem C12_incr_ok (k v : Bytes) (n d : Int) (st : Store) (hk : st.get k = some (.str v)) (hv : atoi v = some n)
    (hr : inInt64 (n + d) = true) :
    UProg.runH (refHandle sc) (incDec k d) st =
      (some (.reply (newInteger (n + d))), st.put k (.str (itoa (n + d)))) := by
  simp only [incDec, UProg.runH, refHandle, hk, okRes, newBulk, msgInt, hv, Option.elim, hr]
  rfl

theorem C12_incr_missing_key_is_zero (k : Bytes) (d : Int) (st : Store) (hk : st.get k = none) (hr : inInt64 d = true) :
    UProg.runH (refHandle sc) (incDec k d) st = (some (.reply (newInteger d)), st.put k (.str (itoa d))) := by
  simp only [incDec, UProg.runH, refHandle, hk, okRes, newNil, Int.zero_add, hr]
  rfl

theorem C12_incr_overflow (k v : Bytes) (n d : Int) (st : Store) (hk : st.get k = some (.str v)) (hv : atoi v = some n)
    (hr : inInt64 (n + d) = false) :
    ∃ e, UProg.runH (refHandle sc) (incDec k d) st = (some (.error e), st) := by
  exact ⟨{ text := b!"increment or decrement would overflow" }, by
    simp only [incDec, UProg.runH, refHandle, hk, okRes, newBulk, msgInt, hv, Option.elim, hr]
    rfl⟩

theorem C12_incr_not_an_integer (k v : Bytes) (d : Int) (st : Store) (hk : st.get k = some (.str v)) (hv : atoi v = none) :
    ∃ e, UProg.runH (refHandle sc) (incDec k d) st = (some (.error e), st) := by
  exact ⟨errAtoi, by simp only [incDec, UProg.runH, refHandle, hk, okRes, newBulk, msgInt, hv, Option.elim]; rfl⟩

example : inInt64 (9223372036854775807 + 1) = false := by decide

/-! ## APPEND, MGET (request order, duplicates kept), CONFIG -/

theorem C12_append (k old v : Bytes) (st : Store) (hk : st.get k = some (.str old)) :
    UProg.runH (refHandle sc) (execAppend [B k, B v]) st =
      (some (.reply (newInteger (old ++ v).length)), st.put k (.str (old ++ v))) := by
  simp only [execAppend, withArgs, nextString_B, UProg.runH, refHandle, hk]
  rfl

theorem C12_append_missing_key (k v : Bytes) (st : Store) (hk : st.get k = none) :
    UProg.runH (refHandle sc) (execAppend [B k, B v]) st = (some (.reply (newInteger v.length)), st.put k (.str v)) := by
  simp only [execAppend, withArgs, nextString_B, UProg.runH, refHandle, hk]
  rfl

/-- what GET answers for a key in a given store -/
def getReply (st : Store) (k : Bytes) : Msg :=
  match st.get k with
  | some (.str v) => newBulk v
  | _ => newNil

theorem callEach_get (ks : List Bytes) (st : Store) (acc : List Msg → UProg Out) :
    UProg.runH (refHandle sc) (callEach HCall.get ks acc) st = UProg.runH (refHandle sc) (acc (ks.map (getReply st))) st := by
  induction ks generalizing acc with
  | nil => rfl
  | cons k ks ih =>
    simp only [callEach, UProg.runH, List.map]
    have : refHandle sc (.get k) st = (okRes (getReply st k), st) := by
      simp only [refHandle, getReply]
      cases st.get k with
      | none => rfl
      | some v => cases v <;> rfl
    rw [this]
    simp only [okRes]
    exact ih _

/-- MGET: one reply element per requested key, in request order, duplicates included, store untouched -/
theorem C12_mget_order (k : Bytes) (ks : List Bytes) (st : Store) :
    UProg.runH (refHandle sc) (execMGet ((k :: ks).map B)) st =
      (some (.reply (.arr ((k :: ks).map (getReply st)))), st) := by
  have h := nextStrings_B b!"keys" k ks
  simp only [execMGet, withArgs, h]
  rw [callEach_get]
  rfl

theorem configSet_lookup (cfg kvs : List (Bytes × Bytes)) (k : Bytes) :
    (configSet cfg kvs).lookup k = (kvs.reverse.lookup k).or (cfg.lookup k) := by
  induction kvs generalizing cfg with
  | nil => simp [configSet]
  | cons p ps ih =>
    obtain ⟨k', v'⟩ := p
    rw [configSet, ih, List.reverse_cons, List.lookup_append, Option.or_assoc, lookup_cons_ite, lookup_cons_ite,
      lookup_filter_ne]
    congr 1
    split <;> rfl

/-- CONFIG GET returns, in request order, the value last stored with CONFIG SET for each name -/
theorem C12_config_get_after_set (cfg kvs : List (Bytes × Bytes)) (ks : List Bytes) :
    configGetReply (configSet cfg kvs) ks =
      .arr (ks.flatMap fun k => [newBulk k, newBulk (((kvs.reverse.lookup k).or (cfg.lookup k)).getD [])]) := by
  simp [configGetReply, configSet_lookup]

/-! ## Hash, set and sorted-set derivations -/

theorem hkeysOf_pair (f v : Bytes) (rest : List Msg) : hkeysOf (newBulk f :: newBulk v :: rest) = f :: hkeysOf rest := rfl

theorem hvalsOf_pair (f v : Bytes) (rest : List Msg) : hvalsOf (newBulk f :: newBulk v :: rest) = v :: hvalsOf rest := rfl

/-- HKEYS and HVALS derived from an HGETALL reply: the i-th key and the i-th value are the i-th pair -/
theorem C12_hkeys_hvals (fs : List (Bytes × Bytes)) :
    hkeysOf (fs.flatMap fun p => [newBulk p.1, newBulk p.2]) = fs.map Prod.fst ∧
    hvalsOf (fs.flatMap fun p => [newBulk p.1, newBulk p.2]) = fs.map Prod.snd := by
  induction fs with
  | nil => exact ⟨rfl, rfl⟩
  | cons p ps ih =>
    obtain ⟨f, v⟩ := p
    simp only [List.flatMap_cons, List.cons_append, List.nil_append, List.map]
    rw [hkeysOf_pair, hvalsOf_pair, ih.1, ih.2]
    exact ⟨rfl, rfl⟩

theorem C12_card (ms : List Bytes) : countUntilAbsent (ms.map newBulk) = ms.length := by
  induction ms with
  | nil => rfl
  | cons m ms ih =>
    show countUntilAbsent (ms.map newBulk) + 1 = ms.length + 1
    rw [ih]

theorem C12_sismember (m : Bytes) (ms : List Bytes) : isMemberOf m (ms.map newBulk) = ms.contains m := by
  induction ms with
  | nil => rfl
  | cons x xs ih =>
    have hstep : isMemberOf m (newBulk x :: xs.map newBulk) = (if x = m then true else isMemberOf m (xs.map newBulk)) :=
      rfl
    rw [List.map_cons, hstep, ih, List.contains_cons]
    by_cases h : x = m
    · simp [h]
    · simp [h, Ne.symm h]

/-- PING without argument answers PONG; ECHO answers its argument as a bulk string, whatever its bytes -/
theorem C12_ping_echo (srv : SrvSt) (conn : ConnSt) (a : Bytes) (rest : List Msg) :
    execSystem srv conn b!"PING" [] = some (.reply (newStatus b!"PONG"), conn, srv) ∧
    execSystem srv conn b!"ECHO" (B a :: rest) = some (.reply (newBulk a), conn, srv) :=
  ⟨rfl, rfl⟩

/-! ## MSET / MSETNX: every pair is stored; MSETNX stores all pairs or none -/

/-- the store after setting the pairs one after the other -/
def putAll (st : Store) (kvs : List (Bytes × Bytes)) : Store := kvs.foldl (fun s p => s.put p.1 (.str p.2)) st

theorem putAll_get_other (kvs : List (Bytes × Bytes)) (st : Store) (k : Bytes) (h : ∀ p ∈ kvs, p.1 ≠ k) :
    (putAll st kvs).get k = st.get k :=
  List.foldlRecOn kvs _ (motive := fun s => s.get k = st.get k) rfl fun s hs p hp =>
    (Store.get_put_other s p.1 k _ (fun e => h p hp e.symm)).trans hs

/-- with pairwise distinct keys every pair is readable afterwards -/
theorem putAll_get_mem (kvs : List (Bytes × Bytes)) (st : Store) (hd : (kvs.map Prod.fst).Nodup) (k v : Bytes) (h : (k, v) ∈ kvs) :
    (putAll st kvs).get k = some (.str v) := by
  induction kvs generalizing st with
  | nil => nomatch h
  | cons p ps ih =>
    rw [List.map_cons, List.nodup_cons] at hd
    rcases List.mem_cons.1 h with rfl | hm
    · exact (putAll_get_other ps _ k fun q hq e => hd.1 (List.mem_map.2 ⟨q, hq, e⟩)).trans (Store.get_put_same st k _)
    · exact ih _ hd.2 hm

/-- `callEach` when every call succeeds: the continuation gets some replies and the state the calls lead to; `I` is what
holds of the state and the calls still to come -/
theorem callEach_fold {α σ : Type} (h : HCall → σ → HRes × σ) (mk : α → HCall) (g : σ → α → σ) (I : σ → List α → Prop)
    (hstep : ∀ s a as, I s (a :: as) → (h (mk a) s).1.err = none ∧ (h (mk a) s).2 = g s a ∧ I (g s a) as)
    (as : List α) (st : σ) (acc : List Msg → UProg Out) (hI : I st as) :
    ∃ ms, UProg.runH h (callEach mk as acc) st = UProg.runH h (acc ms) (as.foldl g st) := by
  induction as generalizing st acc with
  | nil => exact ⟨[], rfl⟩
  | cons a as ih =>
    obtain ⟨he, hs, hI'⟩ := hstep st a as hI
    obtain ⟨ms, hms⟩ := ih (g st a) (fun ms => acc ((h (mk a) st).1.msg :: ms)) hI'
    exact ⟨(h (mk a) st).1.msg :: ms, by simp only [callEach, UProg.runH, he, hs, List.foldl_cons, hms]⟩

/-- MSET: answers OK and every pair is stored (pairs in the order the framework walks them) -/
theorem C12_mset (kvs : List (Bytes × Bytes)) (st : Store) :
    UProg.runH (refHandle sc) (callEach (fun (p : Bytes × Bytes) => HCall.set p.1 p.2 {}) kvs fun _ => replyP okMsg) st =
      (some (.reply okMsg), putAll st kvs) := by
  obtain ⟨ms, h⟩ := callEach_fold (refHandle sc) (fun (p : Bytes × Bytes) => HCall.set p.1 p.2 {})
    (fun s p => s.put p.1 (.str p.2)) (fun _ _ => True) (fun _ _ _ _ => ⟨rfl, rfl, trivial⟩) kvs st (fun _ => replyP okMsg) trivial
  rw [h]; rfl

/-- the probes of a prefix of missing keys go through -/
theorem msetnxProbe_skip (pre post : List (Bytes × Bytes)) (st : Store) (cont : UProg Out)
    (h : ∀ p ∈ pre, st.get p.1 = none) :
    UProg.runH (refHandle sc) (msetnxProbe (pre ++ post) cont) st = UProg.runH (refHandle sc) (msetnxProbe post cont) st := by
  induction pre with
  | nil => rfl
  | cons p ps ih =>
    simp only [List.cons_append, msetnxProbe, UProg.runH, refHandle, h p (List.mem_cons_self ..), okRes, newNil]
    exact ih fun q hq => h q (List.mem_cons_of_mem _ hq)

/-- MSETNX, some key already holds a string: the reply is 0 and **nothing** is written — not even the pairs in front of
the existing key (the probes run before the first write) -/
theorem C12_msetnx_existing_key (pre post : List (Bytes × Bytes)) (k v old : Bytes) (st : Store) (cont : UProg Out)
    (hpre : ∀ p ∈ pre, st.get p.1 = none) (hk : st.get k = some (.str old)) :
    UProg.runH (refHandle sc) (msetnxProbe (pre ++ (k, v) :: post) cont) st = (some (.reply (newInteger 0)), st) := by
  rw [msetnxProbe_skip sc pre _ st cont hpre]
  simp only [msetnxProbe, UProg.runH, refHandle, hk]
  rfl

theorem msetnxProbe_all_missing (kvs : List (Bytes × Bytes)) (st : Store) (cont : UProg Out)
    (h : ∀ p ∈ kvs, st.get p.1 = none) :
    UProg.runH (refHandle sc) (msetnxProbe kvs cont) st = UProg.runH (refHandle sc) cont st := by
  have := msetnxProbe_skip sc kvs [] st cont h
  rwa [List.append_nil] at this

/-- MSETNX, no key exists: the reply is 1 and every pair is stored -/
theorem C12_msetnx_all_missing (kvs : List (Bytes × Bytes)) (st : Store)
    (hd : (kvs.map Prod.fst).Nodup) (h : ∀ p ∈ kvs, st.get p.1 = none) :
    UProg.runH (refHandle sc) (msetnxProbe kvs <|
        callEach (fun (p : Bytes × Bytes) => HCall.set p.1 p.2 { nx := true }) kvs fun _ => replyP (newInteger 1)) st =
      (some (.reply (newInteger 1)), putAll st kvs) := by
  rw [msetnxProbe_all_missing sc kvs st _ h]
  -- no key is there when its turn comes: the keys are distinct, and none was there at the start
  obtain ⟨ms, hh⟩ := callEach_fold (refHandle sc) (fun (p : Bytes × Bytes) => HCall.set p.1 p.2 { nx := true })
    (fun s p => s.put p.1 (.str p.2)) (fun s as => (as.map Prod.fst).Nodup ∧ ∀ p ∈ as, s.get p.1 = none)
    (fun s a as hI => by
      have hn := List.nodup_cons.1 hI.1
      have hr : refHandle sc (.set a.1 a.2 { nx := true }) s = (intRes 1, s.put a.1 (.str a.2)) := by
        simp [refHandle, hI.2 a (List.mem_cons_self ..)]
      rw [hr]
      refine ⟨rfl, rfl, hn.2, fun q hq => ?_⟩
      · rw [Store.get_put_other _ _ _ _ fun e => hn.1 (List.mem_map.2 ⟨q, hq, e⟩)]
        exact hI.2 q (List.mem_cons_of_mem _ hq))
    kvs st (fun _ => replyP (newInteger 1)) ⟨hd, h⟩
  rw [hh]; rfl

/-- the key lists the framework hands to these loops have pairwise distinct keys (a Go map) -/
theorem mapOfPairs_nodup (ps : List (Bytes × Bytes)) : ((mapOfPairs ps).map Prod.fst).Nodup := by
  induction ps with
  | nil => exact List.nodup_nil
  | cons p ps ih =>
    obtain ⟨k, v⟩ := p
    simp only [mapOfPairs]
    split
    · refine List.nodup_cons.2 ⟨fun hm => ?_, (List.filter_sublist.map _).nodup ih⟩
      obtain ⟨q, hq, rfl⟩ := List.mem_map.1 hm
      simpa using (List.mem_filter.1 hq).2
    · rename_i hnone
      refine List.nodup_cons.2 ⟨fun hm => ?_, ih⟩
      obtain ⟨q, hq, rfl⟩ := List.mem_map.1 hm
      simpa using List.lookup_eq_none_iff.1 hnone q hq

/-! ## The sugar commands that nest another command: STRLEN, SUBSTR, HEXISTS, HSTRLEN, HLEN -/

theorem execUser_of_lookup (pf : FloatOracle) (srv : SrvSt) (conn : ConnSt) (hh : srv.hasHandler = true)
    (cmd : Bytes) (ex : UExec) (hl : (userTable pf).lookup (upper cmd) = some ex) (args : List Msg) :
    execUser pf srv conn cmd args = some (gated conn (upper cmd) (ex args).lift) := by
  simp only [execUser, hl, hh, Bool.not_true, Bool.false_eq_true, if_false]

/-- a nested command whose executor makes the one handler call `c`: the continuation gets the handler's answer -/
theorem runH_nestedCall {σ : Type} (h : HCall → σ → HRes × σ) (pf : FloatOracle) (srv : SrvSt) (conn : ConnSt)
    (hh : srv.hasHandler = true) (ha : conn.authorized = true)
    (name : Bytes) (ex : UExec) (hl : (userTable pf).lookup (upper name) = some ex) (args : List Msg) (c : HCall)
    (hex : ex args = callRet c) (k : Out → Prog Out) (st : σ) :
    (Prog.runH conn h (nestedCall pf srv conn name args k) st).2 =
      (Prog.runH conn h (k (outOf (h c st).1)) (h c st).2).2 := by
  simp only [nestedCall, execUser_of_lookup pf srv conn hh name ex hl, gated, ha, hex, callRet, UProg.lift,
    Prog.andFinish, Prog.bind, Prog.runH, Bool.not_true, Bool.false_and, Bool.false_eq_true, if_false]

/-- STRLEN: the length of the stored string; 0 for a key that does not exist; the store is untouched -/
theorem C12_strlen (pf : FloatOracle) (srv : SrvSt) (conn : ConnSt) (hh : srv.hasHandler = true) (ha : conn.authorized = true)
    (k : Bytes) (st : Store) :
    (Prog.runH conn (refHandle sc) (execStrLen pf srv conn [B k]) st).2 =
      (some (.reply (newInteger (match st.get k with | some (.str v) => v.length | _ => 0))), st) := by
  rw [execStrLen, runH_nestedCall (refHandle sc) pf srv conn hh ha b!"GET" _ rfl [B k] (.get k)
    (by simp only [shapeS, withArgs, nextString_B])]
  cases hg : st.get k with
  | none => simp [Prog.runH, refHandle, hg, okRes, newNil, outOf, msgStr, nreply]
  | some v => cases v <;> simp [Prog.runH, refHandle, hg, okRes, newNil, newBulk, outOf, msgStr, nreply]

/-- HEXISTS: 1 iff the hash has the field -/
theorem C12_hexists_hstrlen (pf : FloatOracle) (srv : SrvSt) (conn : ConnSt) (hh : srv.hasHandler = true) (ha : conn.authorized = true)
    (h f : Bytes) (st : Store) (r : HRes) (st' : Store) (hr : refHandle sc (.hget h f) st = (r, st')) (he : r.err = none)
    (hm : r.msg = newNil ∨ ∃ v, r.msg = newBulk v) :
    (Prog.runH conn (refHandle sc) (execHExists pf srv conn [B h, B f]) st).2 =
      (some (.reply (newInteger (match r.msg with | .bulk none => 0 | _ => 1))), st') ∧
    (Prog.runH conn (refHandle sc) (execHStrLen pf srv conn [B h, B f]) st).2 =
      (some (.reply (newInteger (match r.msg with | .bulk (some v) => v.length | _ => 0))), st') := by
  have hex : shapeSS .hget [B h, B f] = callRet (.hget h f) := by simp only [shapeSS, withArgs, nextString_B]
  rw [execHExists, execHStrLen, runH_nestedCall (refHandle sc) pf srv conn hh ha b!"HGET" _ rfl _ _ hex,
    runH_nestedCall (refHandle sc) pf srv conn hh ha b!"HGET" _ rfl _ _ hex, hr]
  rcases hm with hm | ⟨v, hm⟩ <;> simp [Prog.runH, outOf, he, hm, newNil, newBulk, msgStr, nreply]

/-- SUBSTR is GETRANGE (the same executor is run on the same arguments) -/
theorem C12_substr_is_getrange (pf : FloatOracle) (srv : SrvSt) (conn : ConnSt) (args : List Msg) :
    ∃ ex, nested1 pf srv conn b!"SUBSTR" = some ex ∧ ex args = nestedCall pf srv conn b!"GETRANGE" args .ret :=
  ⟨fun args => nestedCall pf srv conn b!"GETRANGE" args .ret, rfl, rfl⟩

/-! ## The code as translated from the current source (regenerated on every run)

`Generated/Translated.lean` is written by `bin/extract` from `redis/sugar_commander.go`: the statements of the GETRANGE
executor from `strLen := len(getVal)` on, the addition and overflow test of `incdecExecutor`, the guard of DECRBY –
statement for statement, with Go's wrapping `int` arithmetic and panicking slice expressions.  The theorems say that this
code computes what the model's executors (`getRange`, `incDec`, `execIncDecBy`) compute, for every value and all 64-bit
arguments; the `C12_getrange_*`, `C12_incr_*` theorems above are therefore statements about the source as it is now. -/

/-- GETRANGE: the source's index arithmetic and slice expression return Redis' range, never panic, for every value and
all 64-bit indexes -/
theorem C12_source_getrange (v : Bytes) (s e : Int) (hl : (v.length : Int) ≤ 9223372036854775807)
    (hs : inInt64 s = true) (he : inInt64 e = true) :
    Translated.getrangeWindow v s e = .ok (getRange v s e) := Translated.getrange_eq v s e hl hs he

/-- INCR / DECR / INCRBY / DECRBY: the source detects overflow by looking at the wrapped sum; that test is exact – the new
value is stored iff the mathematical sum is a 64-bit integer -/
theorem C12_source_counter_overflow (c d : Int) (hc : inInt64 c = true) (hd : inInt64 d = true) :
    Translated.incdecNewValue c d =
      if inInt64 (c + d) = true then .ok (c + d) else .err "increment or decrement would overflow" :=
  Translated.incdec_eq c d hc hd

/-- DECRBY: the one decrement that cannot be negated is refused, every other one is negated exactly -/
theorem C12_source_decrby_guard (d : Int) (hd : inInt64 d = true) :
    Translated.decrbyGuard d = if d = -9223372036854775808 then .err "decrement would overflow" else .ok (-d) :=
  Translated.decrby_eq d hd

/-- non-vacuity: border values through the translated code -/
example : Translated.incdecNewValue 9223372036854775807 1 = .err "increment or decrement would overflow" ∧
    Translated.incdecNewValue (-9223372036854775808) (-1) = .err "increment or decrement would overflow" ∧
    Translated.incdecNewValue 9223372036854775806 1 = .ok 9223372036854775807 ∧
    Translated.getrangeWindow b!"hello" 0 (-6) = .ok b!"h" ∧
    Translated.getrangeWindow b!"hello" (-9223372036854775808) 9223372036854775807 = .ok b!"hello" ∧
    Translated.getrangeWindow b!"" 0 0 = .ok b!"" := by decide +kernel

/-- ZREVRANGE: the window handed to the handler's ZRange is `(-stop-1, -start-1)` – the arguments of that call as
translated from the current source -/
theorem C12_source_zrevrange_window (start stop : Int) :
    Translated.zrevrangeWindow start stop = (-stop - 1, -start - 1) := rfl

/-! ## ZREVRANGE / ZREVRANGEBYSCORE: the reply loops as they are written

`Model/ReverseBy` transcribes `(*Array).ReverseBy` (two index loops and a final append) and the LIMIT loop of the
ZREVRANGEBYSCORE executor (entry = n / step, `continue` before the offset, `break` behind the count) loop for loop;
`Model/Exec` describes the same replies by `List.reverse`, `reversePairs` and `limitEntries`, and the theorems
`C12_zrevrange_slice`, `C12_zrevrangebyscore_reply` above are stated over those.  The loops compute exactly them. -/

/-- ZREVRANGE without scores: `ReverseBy(1)` is the reversal – for every reply, without running out of fuel or range -/
theorem C12_ex_reverseBy_one (es : List Msg) : Ex.reverseBy es 1 = some es.reverse := by
  rw [Ex.reverseBy_eq]; simp [Ex.revTail_one]

/-- WITHSCORES: `ReverseBy(2)` reverses the order of the member/score pairs and keeps each pair as it is; a reply of odd
length keeps its leading element behind the pairs (the case that used to index out of range) -/
theorem C12_ex_reverseBy_two (es : List Msg) : Ex.reverseBy es 2 = some (reversePairs es) := by
  rw [Ex.reverseBy_eq]; simp [Ex.revTail_two]

/-- ZREVRANGEBYSCORE … LIMIT offset count: the loop over the reversed reply selects `limitEntries` – skip `offset` entries,
keep `count` (all when negative), nothing for a negative offset – for all 64-bit offsets and counts, with and without scores -/
theorem C12_ex_limit_loop (step : Nat) (hs : step = 1 ∨ step = 2) (offset count : Int) (es : List Msg) :
    Ex.limitReversed step offset count es = limitEntries step offset count es :=
  Ex.limitReversed_eq step (by omega) offset count es

/-- ZREVRANGEBYSCORE end to end on the handler's reply `es`: `ReverseBy(step)` followed by the LIMIT loop is what
`reverseReplyL` of `Model/Exec` puts into the reply -/
theorem C12_ex_zrevrangebyscore_loops (es : List Msg) (offset count : Int) (withscores : Bool) :
    (Ex.reverseBy es (if withscores then 2 else 1)).map (Ex.limitReversed (if withscores then 2 else 1) offset count) =
      some (if withscores then limitEntries 2 offset count (reversePairs es) else limitEntries 1 offset count es.reverse) := by
  cases withscores
  · simp only [Bool.false_eq_true, if_false, C12_ex_reverseBy_one, Option.map_some, Ex.limitReversed_eq 1 Nat.one_pos]
  · simp only [if_true, C12_ex_reverseBy_two, Option.map_some, Ex.limitReversed_eq 2 Nat.two_pos]

/-- the source of these loops is the one that was transcribed (regenerated on every run) -/
theorem C12_source_reply_loops_are_the_modelled_ones :
    Ex.reverseByModelled.all (fun e => Generated.protoFingerprints.contains (e.1, e.2.1)) = true := by decide +kernel

example : Ex.reverseBy [10, 1, 20, 2, 30] 2 = some [2, 30, 1, 20, 10] ∧ Ex.reverseBy [1, 2, 3] 0 = some [3, 2, 1] ∧
    Ex.limitReversed 2 1 9223372036854775807 [10, 1, 20, 2] = [20, 2] ∧ Ex.limitReversed 1 (-1) 5 [1, 2] = [] := by
  decide +kernel

end GoRedis
