import GoRedisModel.Properties.Grammar
import GoRedisModel.Generated.Facts
/-! The executor *shapes* regenerated from /repo's source (`Generated.executorShapes`: per registered command the
kinds of argument readers its executor calls, in source order, and the handler operations it reaches) compared with
what the model and the independent grammar say.  Re-checked by the kernel on every run against the table `bin/extract`
has just produced: an executor that reads its arguments in another order, reads another kind of argument, or reaches
another handler operation no longer matches. -/
namespace GoRedis
open Generated

def bytesToString (b : Bytes) : String := String.ofList (b.map fun c => Char.ofNat c.toNat)

/-- the command names the model dispatches on -/
def modelCommandNames : List String :=
  (((userTable fun _ => none).map Prod.fst) ++ nestedNames ++ systemNames).map bytesToString

/-- the Go method of the application's handler a handler call stands for -/
def HCall.goName : HCall → String
  | .auth .. => "Auth" | .del .. => "Del" | .exists_ .. => "Exists" | .expire .. => "Expire" | .keys .. => "Keys"
  | .rename .. => "Rename" | .type_ .. => "Type" | .ttl .. => "TTL" | .scan .. => "Scan" | .get .. => "Get"
  | .set .. => "Set" | .hdel .. => "HDel" | .hset .. => "HSet" | .hget .. => "HGet" | .hgetall .. => "HGetAll"
  | .lpush .. => "LPush" | .rpush .. => "RPush" | .lpop .. => "LPop" | .rpop .. => "RPop" | .lrange .. => "LRange"
  | .lindex .. => "LIndex" | .llen .. => "LLen" | .sadd .. => "SAdd" | .smembers .. => "SMembers" | .srem .. => "SRem"
  | .zadd .. => "ZAdd" | .zrange .. => "ZRange" | .zrangebyscore .. => "ZRangeByScore" | .zrem .. => "ZRem"
  | .zscore .. => "ZScore" | .zincrby .. => "ZIncBy"

/-- the reader kinds a positional form stands for, and the handler call it makes (on sample arguments) -/
def Form.kinds : Form → String
  | .s _ => "S" | .ss _ => "SS" | .sss _ => "SSS" | .si _ => "SI" | .sii _ => "SII" | .sfs _ => "SFS" | .l _ => "L" | .sl _ => "SL"

def Form.sample : Form → HCall
  | .s f => f [] | .ss f => f [] [] | .sss f => f [] [] [] | .si f => f [] 0 | .sii f => f [] 0 0 | .sfs f => f [] 0 []
  | .l f => f [] | .sl f => f [] []

def isHandlerCall (c : String) : Bool := c.toList.contains ':' || c == "X"
def readersOf (calls : List String) : List Char := (calls.filter fun c => !isHandlerCall c).flatMap String.toList
def handlersOf (calls : List String) : List String := calls.filter isHandlerCall

/-- what the model's executors for the commands *outside* the positional grammar read and reach (written from
`Model/Exec.lean`): option-bearing commands, composites over primitive operations, system commands, re-entrant
commands (`X` = re-enters command dispatch) -/
def modelOtherShapes : List (String × String × List String) := [
  ("APPEND", "SS", ["H:Get", "H:Set"]), ("AUTH", "", ["A:Auth"]),
  ("CONFIG", "PL", ["Y:ConfigSet", "Y:ConfigGet"]),
  ("DECR", "S", []), ("DECRBY", "SI", []), ("INCR", "S", []), ("INCRBY", "SI", []),
  ("ECHO", "", ["Y:Echo"]), ("PING", "", ["Y:Ping"]), ("QUIT", "", ["Y:Quit"]), ("SELECT", "", ["Y:Select"]),
  ("EXPIRE", "SI<ExpireOption>", ["H:Expire"]), ("EXPIREAT", "SI<ExpireOption>", ["H:Expire"]),
  ("GETRANGE", "SII", ["H:Get"]),
  ("HEXISTS", "", ["X"]), ("HKEYS", "", ["X"]), ("HLEN", "", ["X"]), ("HSTRLEN", "", ["X"]), ("HVALS", "", ["X"]),
  ("STRLEN", "", ["X"]), ("SUBSTR", "", ["X"]),
  ("HMGET", "SL", ["H:HGet"]), ("HMSET", "SP", ["H:HSet"]),
  ("LPOP", "SI", ["H:LPop"]), ("RPOP", "SI", ["H:RPop"]),
  ("MGET", "L", ["H:Get"]), ("MSET", "P", ["H:Set"]), ("MSETNX", "P", ["H:Get", "H:Set"]),
  ("SCAN", "I<ScanOption>", ["H:Scan"]),
  ("SCARD", "S", ["H:SMembers"]), ("SISMEMBER", "SS", ["H:SMembers"]),
  ("SET", "SS<SetOption>", ["H:Set"]), ("SETEX", "SIS", ["H:Set"]),
  ("ZADD", "SSFS", ["H:ZAdd"]), ("ZCARD", "S", ["H:ZRange"]),
  ("ZRANGE", "SSS<ZRangeOption>", ["H:ZRangeByScore", "H:ZRange"]),
  ("ZRANGEBYSCORE", "SFBFB<ZRangeOption>", ["H:ZRangeByScore"]),
  ("ZREVRANGE", "SII<ZRangeOption>", ["H:ZRange"]),
  ("ZREVRANGEBYSCORE", "SFBFB<ZRangeOption>", ["H:ZRangeByScore"])]

def modelShape (name : String) : Option (List Char × List String) :=
  match grammar.find? fun row => bytesToString row.name == name with
  | some row => some (row.form.kinds.toList, ["H:" ++ row.form.sample.goName])
  | none => (modelOtherShapes.lookup name).map fun p => (p.1.toList, p.2)

/-- **every executor of the current source has the shape the model (and, for the 28 positional commands, the
independent grammar) gives it** -/
theorem source_shapes_match_model :
    (executorShapes.all fun e => modelShape e.1 == some (readersOf e.2, handlersOf e.2)) = true := by
  decide +kernel

/-- … and every grammar row has an executor in the source -/
theorem grammar_rows_registered :
    (grammar.all fun row => (executorShapes.lookup (bytesToString row.name)).isSome) = true := by decide +kernel

end GoRedis
