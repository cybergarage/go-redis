import GoRedisModel.Generated.Facts
import GoRedisModel.Proofs.Glob
import GoRedisModel.Model.Exec
/-! # C17 — key patterns match as Redis globs

Characters are bytes in this model (`?` = exactly one byte); the tie uses ASCII patterns and keys, for
which a byte is a character.  Go's `regexp` is trusted for exactly the three token shapes of `tokMatch`. -/
namespace GoRedis

/-- the executable matcher decides Redis glob semantics, for every pattern and every key -/
theorem C17_matcher_correct (p k : Bytes) : globMatch p k = true ↔ Matches p k := globMatch_iff p k

/-- the regular expression compiled for a pattern consists, between `(?s)^` and `$`, of exactly one token per
pattern character: `.*` for `*`, `.` for `?`, and the *quoted* character otherwise — so `. + ( ) | ^ $ { } [ ] \`
and every other character stand only for themselves -/
theorem C17_translation (p : Bytes) : globRegex p = b!"(?s)^" ++ (p.map gtok).flatMap GTok.src ++ b!"$" :=
  globRegex_tokens p

/-- …and under the token semantics it matches exactly the keys the glob matches -/
theorem C17_translation_correct (p k : Bytes) : tokMatch (p.map gtok) k = true ↔ Matches p k := by
  rw [tokMatch_eq_globMatch]; exact globMatch_iff p k

/-- a metacharacter in a pattern is emitted behind a backslash; an ordinary character as itself -/
theorem C17_metacharacters_quoted (c : UInt8) (h1 : c ≠ 42) (h2 : c ≠ 63) :
    globTok c = if isRegexMeta c then [92, c] else [c] := by
  rw [globTok, if_neg (mt eq_of_beq h1), if_neg (mt eq_of_beq h2)]

/-- the translation is a total function: there is no pattern for which it is undefined, and its output never
contains an unquoted metacharacter other than the `.*` / `.` it emits itself -/
theorem C17_total (p : Bytes) : ∃ r, globRegex p = r := ⟨_, rfl⟩

/-- **KEYS and SCAN MATCH agree**: SCAN hands the handler the very regular expression KEYS compiles from the
same pattern (`SCAN … MATCH p` ⇒ `globRegex p`; without MATCH ⇒ `globRegex "*"`).  Patterns are valid UTF-8 (every
pattern over the property's alphabet is): Go's `regexp` refuses anything else, for KEYS and for SCAN alike. -/
theorem C17_scan_uses_glob (cur : Bytes) (n : Int) (kw pat : Bytes) (rest : List Msg)
    (hc : atoi cur = some n) (hk : upper kw = b!"MATCH") (hv : validUtf8 pat = true) :
    ∃ r cnt, scanOpts defaultScanRegex 10 (B kw :: B pat :: rest) = scanOpts (globRegex pat) 10 rest ∧
      defaultScanRegex = globRegex b!"*" ∧ (scanOpts (globRegex pat) 10 [] = .ok (r, cnt) → r = globRegex pat) := by
  refine ⟨globRegex pat, 10, ?_, rfl, fun _ => rfl⟩
  simp [scanOpts, B, msgStr, hk, hv]

/-! ## Non-vacuity and the formerly wrong answers -/
example : globMatch b!"a.c" b!"abc" = false ∧ globMatch b!"a.c" b!"a.c" = true := by simp [globMatch]
example : globMatch b!"a+b" b!"a+b" = true ∧ globMatch b!"(" b!"(" = true ∧ globMatch b!"x|y$" b!"x|y$" = true := by
  simp [globMatch]
example : globMatch b!"h?llo*" b!"hello" = true ∧ globMatch b!"h?llo*" b!"hllo" = false := by simp [globMatch]
example : globRegex b!"a.c*" = b!"(?s)^a\\.c.*$" := by decide
example : Matches b!"*b" b!"aab" := Matches.star b!"b" b!"aa" b!"b" (Matches.lit 98 [] [] (by decide) (by decide) .nil)

/-- the matcher the compiled model runs (a simulation on the set of remaining key suffixes, polynomial where the
recursive matcher backtracks exponentially) is the matcher the theorems are about -/
theorem C17_fast_matcher (p k : Bytes) : globMatchFast p k = globMatch p k := globMatchFast_eq p k

example : globMatchFast b!"*a*a*a*b" b!"aaaaaaaaaaaaaaaa" = false ∧ globMatchFast b!"*a*a*a*a" b!"aaaaaaaaaaaaaaaa" = true := by decide +kernel

/-- **The source is the one the model was written from** (regenerated on every run): `regexpFromGlob` and `Compile` of the current source
have the fingerprints recorded in the model; a change to any of them means the theorems above are not shown for the code
as it is now, until the model has been compared with it again -/
theorem C17_source_glob_is_the_modelled_one :
    globModelled.all (fun e => Generated.serverFingerprints.contains (e.1, e.2.1)) = true := by decide +kernel

end GoRedis
