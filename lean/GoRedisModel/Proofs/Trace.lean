import GoRedisModel.Model.Conn
/-! Traces of one connection: what a run of an executor can emit, and how `run` goes through `bind`. -/
namespace GoRedis

/-- payloads of the writes of a trace -/
def writesOf : List Ev → List Bytes
  | [] => []
  | .wr bs :: es => bs :: writesOf es
  | _ :: es => writesOf es

theorem writesOf_append (a b : List Ev) : writesOf (a ++ b) = writesOf a ++ writesOf b := by
  induction a with
  | nil => rfl
  | cons e es ih => cases e <;> simp [writesOf, ih]

def crashedIn : List Ev → Bool
  | [] => false
  | .crash :: _ => true
  | _ :: es => crashedIn es

theorem crashedIn_append (a b : List Ev) : crashedIn (a ++ b) = (crashedIn a || crashedIn b) := by
  induction a with
  | nil => rfl
  | cons e es ih => cases e <;> simp [crashedIn, ih]

theorem crashedIn_iff (evs : List Ev) : crashedIn evs = true ↔ Ev.crash ∈ evs := by
  induction evs with
  | nil => simp [crashedIn]
  | cons e es ih => cases e <;> simp [crashedIn, ih]

def Ev.isCall : Ev → Bool
  | .hcall _ _ => true
  | _ => false

/-- a run of an executor emits handler calls, each seeing the connection state the run was given, and span operations;
nothing else -/
theorem run_events {α : Type} (view : ConnSt) (p : Prog α) (s : List HRes) :
    ∀ e ∈ (p.run view s).1, (∃ c, e = .hcall c view) ∨ ∃ op, e = Prog.SpanOp.ev op := by
  induction p generalizing s with
  | ret a => simp [Prog.run]
  | panic => simp [Prog.run]
  | emit op k ih => exact List.forall_mem_cons.mpr ⟨.inr ⟨op, rfl⟩, ih s⟩
  | call c k ih => exact List.forall_mem_cons.mpr ⟨.inl ⟨c, rfl⟩, ih _ _⟩

/-- a run neither writes nor crashes: those events belong to the loop around it -/
theorem run_quiet {α : Type} (view : ConnSt) (p : Prog α) (s : List HRes) :
    writesOf (p.run view s).1 = [] ∧ crashedIn (p.run view s).1 = false := by
  induction p generalizing s with
  | ret a => exact ⟨rfl, rfl⟩
  | panic => exact ⟨rfl, rfl⟩
  | emit op k ih => cases op <;> exact ih s
  | call c k ih => exact ih _ _

theorem run_bind {α β : Type} (view : ConnSt) (p : Prog α) (f : α → Prog β) (s : List HRes) :
    (p.bind f).run view s =
      match p.run view s with
      | (evs, none, s') => (evs, none, s')
      | (evs, some a, s') => let r := (f a).run view s'; (evs ++ r.1, r.2) := by
  induction p generalizing s with
  | ret a => rfl
  | panic => rfl
  | emit op k ih =>
    simp only [Prog.bind, Prog.run, ih s]
    obtain ⟨evs, _ | a, s'⟩ := k.run view s <;> rfl
  | call c k ih =>
    simp only [Prog.bind, Prog.run, ih]
    generalize (k _).run view _ = r
    obtain ⟨evs, _ | a, s'⟩ := r <;> rfl

end GoRedis
