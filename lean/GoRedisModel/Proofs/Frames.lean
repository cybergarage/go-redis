import GoRedisModel.Model.Conn
import GoRedisModel.Proofs.Parse
namespace GoRedis

/-- The RESP2 grammar of one complete value, stated directly on bytes (independently of `enc`):
a line has no CR or LF before its terminating CRLF, a bulk has exactly the announced number of bytes
followed by CRLF, an array has exactly the announced number of complete values. -/
inductive Frame : Bytes → Prop
  | line (t : LineTy) (p : Bytes) : CR ∉ p → LF ∉ p → Frame (t.byte :: p ++ CRLF)
  | nullBulk : Frame (bulkByte :: 45 :: 49 :: CRLF)
  | bulk (p : Bytes) : Frame (bulkByte :: dec p.length ++ CRLF ++ p ++ CRLF)
  | arr (fs : List Bytes) : (∀ f ∈ fs, Frame f) → Frame (arrayByte :: dec fs.length ++ CRLF ++ fs.flatten)

/-- a byte string that is a concatenation of complete values -/
def Frames (bs : Bytes) : Prop := ∃ fs : List Bytes, (∀ f ∈ fs, Frame f) ∧ bs = fs.flatten

mutual
theorem enc_frame (m : Msg) (h : noAbsent m = true) : Frame (enc m) := by
  match m with
  | .line t p => simpa [enc] using Frame.line t (sanitize p) (sanitize_no_cr p) (sanitize_no_lf p)
  | .bulk none => simpa [enc] using Frame.nullBulk
  | .bulk (some p) => simpa [enc] using Frame.bulk p
  | .arr es =>
    simp only [noAbsent] at h
    obtain ⟨fs, hfs, hlen, hflat⟩ := encs_frames es h
    simpa [enc, hlen, hflat] using Frame.arr fs hfs
  | .absent => contradiction
  | .arrNil => contradiction
theorem encs_frames (ms : List Msg) (h : noAbsents ms = true) :
    ∃ fs : List Bytes, (∀ f ∈ fs, Frame f) ∧ fs.length = ms.length ∧ fs.flatten = encs ms := by
  match ms with
  | [] => exact ⟨[], nofun, rfl, rfl⟩
  | m :: ms =>
    simp only [noAbsents, Bool.and_eq_true] at h
    obtain ⟨fs, hfs, hlen, hflat⟩ := encs_frames ms h.2
    exact ⟨enc m :: fs, List.forall_mem_cons.mpr ⟨enc_frame m h.1, hfs⟩, by simp [hlen], by simp [encs, hflat]⟩
end

/-- whatever `receive` writes for an outcome is one complete frame -/
theorem replyBytes_frame (o : Out) (bs : Bytes) (h : replyBytes o = some bs) : Frame bs := by
  have herr : ∀ t : Bytes, Frame (enc (.line .err t)) := fun t => enc_frame _ rfl
  have hmsg : ∀ m, replyBytes (.reply m) = some bs → Frame bs := by
    intro m h
    cases m with
    | absent => injection h with h; exact h ▸ herr _
    | _ =>
      simp only [replyBytes, encGo] at h
      split at h
      · rename_i hn; injection h with h; exact h ▸ enc_frame _ hn
      · contradiction
  cases o with
  | error e => injection h with h; exact h ▸ herr _
  | reply m => exact hmsg m h
  | quit m => exact hmsg m (by cases m <;> exact h)

end GoRedis
