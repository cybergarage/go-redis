import GoRedisModel.Generated.Facts
import GoRedisModel.Proofs.Chunked
import GoRedisModel.Proofs.Parse
/-! # C02 — parsing a RESP stream does not depend on how the bytes are chunked -/
namespace GoRedis

/-- Read values with the chunked reader until the stream ends: the values and how it ended. -/
def inextAll : Nat → Nat → Reader → List Msg × Option PRes
  | 0, _, _ => ([], some .fuel)
  | k+1, f, r =>
    match inext f r with
    | .ok m r' => let (ms, e) := inextAll k f r'; (m :: ms, e)
    | .eof => ([], some .eof)
    | .err => ([], some .err)
    | .panic => ([], none)
    | .fuel => ([], some .fuel)

/-- For *every* list of segments, the reader mirroring `parser.go` returns what the flat reference parser
returns on the concatenation, and the transport is left holding exactly the unconsumed bytes.
The quantifier "all partitions of the byte stream into reads" is the universally quantified `r.chunks`. -/
theorem C02_next_chunked (f : Nat) (r : Reader) (hr : r.rest.length < f) :
    (inext f r).flat = some (parse f r.rest) := inext_spec f r hr

/-- Each value consumes exactly its own bytes, whatever follows it and however the stream is split. -/
theorem C02_exact_consumption (v : Msg) (hw : wf v) (tail : Bytes) (r : Reader) (hr : r.rest = enc v ++ tail)
    (f : Nat) (hf : r.rest.length < f) (hd : depth v < f) :
    ∃ r', inext f r = .ok v r' ∧ r'.rest = tail := by
  have h := inext_spec f r hf
  rw [hr, parse_enc v hw f hd tail] at h
  exact flat_eq_some h

/-- A concatenation of encoded values, delivered in any segmentation, is read back as exactly those
values, in order, followed by a clean end of stream. -/
theorem C02_sequence (vs : List Msg) (hw : wfs vs) (r : Reader) (hr : r.rest = encs vs)
    (f : Nat) (hf : (encs vs).length < f) (hd : depths vs < f) :
    inextAll (vs.length + 1) f r = (vs, some .eof) := by
  induction vs generalizing r with
  | nil =>
    obtain ⟨f, rfl⟩ : ∃ f', f = f' + 1 := ⟨f - 1, by omega⟩
    simp [inextAll, inext_nil f r hr]
  | cons v vs ih =>
    simp only [depths] at hd
    obtain ⟨r', h1, h2⟩ := C02_exact_consumption v hw.1 (encs vs) r hr f (by rw [hr]; exact hf) (by omega)
    simp only [encs, List.length_append] at hf
    simp [inextAll, h1, ih hw.2 r' h2 (by omega) (by omega)]

/-! ## Non-vacuity -/

/-- `+OK\r\n$3\r\nabc\r\n` delivered byte by byte (so also split between CR and LF and inside the length
prefix) meets the hypotheses of `C02_sequence`. -/
def sampleVals : List Msg := [.line .str b!"OK", .bulk (some b!"abc")]
def sampleReader : Reader := ⟨[[43], [79], [75], [13], [10], [36], [51], [13], [10], [97], [98], [99], [13], [10]]⟩

example : inextAll 3 20 sampleReader = (sampleVals, some .eof) :=
  C02_sequence sampleVals (by simp [sampleVals, wfs, wf, CR, LF, maxBulk]) sampleReader (by decide) 20 (by decide) (by decide)

example : inextAll 3 20 ⟨[b!"+OK\r", b!"\n$3\r\nab", b!"c\r", b!"\n"]⟩ = (sampleVals, some .eof) :=
  C02_sequence sampleVals (by simp [sampleVals, wfs, wf, CR, LF, maxBulk]) _ (by decide) 20 (by decide) (by decide)

/-! ## The current source -/

/-- **The parser source is the one that was transcribed** (regenerated on every run): the six functions of
`redis/proto/parser.go` and `array.go` that `Model/ParserImpl` mirrors byte for byte have the fingerprints it was written
from -/
theorem C02_source_parser_is_the_modelled_one :
    parserModelled.all (fun e => Generated.protoFingerprints.contains (e.1, e.2.1)) = true := by decide +kernel

end GoRedis
