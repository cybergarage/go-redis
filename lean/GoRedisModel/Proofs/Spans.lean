import GoRedisModel.Proofs.Loop
namespace GoRedis

/-- `Bal d p`: on every path that returns, `p` finishes exactly `d` spans more than it starts, and it
never finishes a span that is not open when started with `d` spans open.  (A path that panics is
unconstrained: the connection is torn down.) -/
inductive Bal {α : Type} : Nat → Prog α → Prop
  | ret (a : α) : Bal 0 (.ret a)
  | panic (d : Nat) : Bal d .panic
  | call (d : Nat) (c : HCall) (k : HRes → Prog α) : (∀ r, Bal d (k r)) → Bal d (.call c k)
  | start (d : Nat) (name : Bytes) (k : Prog α) : Bal (d + 1) k → Bal d (.emit (.start name) k)
  | finish (d : Nat) (k : Prog α) : Bal d k → Bal (d + 1) (.emit .finish k)

theorem bal_lift {α : Type} (u : UProg α) : Bal 0 u.lift := by
  induction u with
  | ret a => exact .ret a
  | panic => exact .panic 0
  | call c k ih => exact .call 0 c _ ih

theorem bal_bind {α β : Type} (p : Prog α) (f : α → Prog β) (d : Nat)
    (hp : Bal d p) (hf : ∀ a, Bal 0 (f a)) : Bal d (p.bind f) := by
  induction hp with
  | ret a => exact hf a
  | panic d => exact .panic d
  | call d c k _ ih => exact .call d c _ ih
  | start d name k _ ih => exact .start d name _ ih
  | finish d k _ ih => exact .finish d _ ih

theorem bal_andFinish {α : Type} (p : Prog α) (d : Nat) (hp : Bal d p) : Bal (d + 1) p.andFinish := by
  induction hp with
  | ret a => exact .finish 0 _ (.ret a)
  | panic d => exact .finish d _ (.panic d)
  | call d c k _ ih => exact .call _ c _ ih
  | start d name k _ ih => exact .start _ name _ ih
  | finish d k _ ih => exact .finish _ _ ih

theorem bal_gated (conn : ConnSt) (ucmd : Bytes) (body : Prog Out) (hb : Bal 0 body) :
    Bal 0 (gated conn ucmd body) := by
  unfold gated
  apply Bal.start
  split
  · exact .finish 0 _ (.ret _)
  · exact bal_andFinish body 0 hb

theorem bal_execUser (pf : FloatOracle) (srv : SrvSt) (conn : ConnSt) (cmd : Bytes) (args : List Msg)
    (p : Prog Out) (h : execUser pf srv conn cmd args = some p) : Bal 0 p := by
  unfold execUser at h
  split at h
  · cases h
  · cases h
    split
    · exact .ret _
    · exact bal_gated _ _ _ (bal_lift _)

theorem bal_nestedCall (pf : FloatOracle) (srv : SrvSt) (conn : ConnSt) (name : Bytes) (args : List Msg)
    (k : Out → Prog Out) (hk : ∀ o, Bal 0 (k o)) : Bal 0 (nestedCall pf srv conn name args k) := by
  unfold nestedCall
  split
  · exact hk _
  · rename_i p hp
    exact bal_bind p k 0 (bal_execUser pf srv conn name args p hp) hk

theorem bal_ret_or_panic {α : Type} (p : Prog α) (h : (∃ a, p = .ret a) ∨ p = .panic) : Bal 0 p := by
  rcases h with ⟨a, rfl⟩ | rfl
  · exact .ret a
  · exact .panic 0

theorem bal_nested1 (pf : FloatOracle) (srv : SrvSt) (conn : ConnSt) (ucmd : Bytes) (ex : NExec) (args : List Msg)
    (h : nested1 pf srv conn ucmd = some ex) : Bal 0 (ex args) := by
  have h := nested1_some h
  simp only [List.mem_cons, List.not_mem_nil, or_false] at h
  obtain rfl | rfl | rfl | rfl | rfl | rfl := h
  all_goals
    -- each of the six runs one nested command and then matches on its outcome; every arm of that match (`repeat' split`
    -- takes it apart, inner matches included) is a `ret` or a `panic`
    dsimp only [execStrLen, execHExists, execHKeys, execHStrLen, execHVals]
    refine bal_nestedCall _ _ _ _ _ _ fun o => ?_
    repeat' split
    all_goals first | exact .panic 0 | exact .ret _

theorem bal_execHLen (pf : FloatOracle) (srv : SrvSt) (conn : ConnSt) (args : List Msg) :
    Bal 0 (execHLen pf srv conn args) := by
  unfold execHLen
  apply bal_bind
  · split
    · exact .ret _
    · exact bal_gated _ _ _ (bal_nested1 pf srv conn b!"HKEYS" _ args rfl)
  · intro o
    split <;> first | exact .panic 0 | exact .ret _

theorem bal_cmdExec (pf : FloatOracle) (srv : SrvSt) (conn : ConnSt) (u : Bytes) (ex : NExec) (args : List Msg)
    (h : cmdExec pf srv conn u = some ex) : Bal 0 (ex args) := by
  unfold cmdExec at h
  split at h
  · cases h; exact bal_lift _
  · split at h
    · cases h; exact bal_nested1 pf srv conn u ex args ‹_›
    · split at h
      · cases h; exact bal_execHLen pf srv conn args
      · split at h <;> cases h; exact bal_lift _

theorem bal_executeCommand (pf : FloatOracle) (srv : SrvSt) (conn : ConnSt) (cmd : Bytes) (args : List Msg) :
    Bal 0 (executeCommand pf srv conn cmd args) := by
  rw [executeCommand_eq]
  split
  · exact .ret _
  · split
    · exact .start _ _ _ (by split <;> exact .finish 0 _ (.ret _))
    · split
      · exact bal_bind _ _ 0 (bal_gated _ _ _ (bal_cmdExec pf srv conn _ _ args ‹_›)) fun _ => .ret _
      · exact .ret _

theorem bal_handleMessage (pf : FloatOracle) (srv : SrvSt) (conn : ConnSt) (m : Msg) :
    Bal 0 (handleMessage pf srv conn m) := by
  cases handleMessage_cases pf srv conn m with
  | command cmd args _ h => rw [h]; exact bal_executeCommand pf srv conn cmd args
  | nilArray _ _ h => rw [h]; exact .panic 0
  | noCommand o _ _ h => rw [h]; exact .ret _

/-! ## The span discipline as a depth machine over the trace -/

/-- State: `none` = no root span open, `some d` = a root span open with `d` child spans open.
Result `none` = the discipline is violated (a finish without a matching start, a root started while another
is open, the root finished while a child is open, a child started without a root). -/
def spanRun : List Ev → Option Nat → Option (Option Nat)
  | [], st => some st
  | .rootStart :: es, none => spanRun es (some 0)
  | .rootStart :: _, some _ => none
  | .spanStart _ :: es, some d => spanRun es (some (d + 1))
  | .spanStart _ :: _, none => none
  | .spanFinish :: es, some (d + 1) => spanRun es (some d)
  | .spanFinish :: _, _ => none
  | .topFinish :: es, some 0 => spanRun es none
  | .topFinish :: _, _ => none
  | .wr _ :: es, st => spanRun es st
  | .hcall _ _ :: es, st => spanRun es st
  | .register :: es, st => spanRun es st
  | .deregister :: es, st => spanRun es st
  | .close :: es, st => spanRun es st
  | .crash :: es, st => spanRun es st

theorem bal_run {α : Type} (p : Prog α) (d : Nat) (hb : Bal d p) (view : ConnSt) (s : List HRes)
    (a : α) (h : (p.run view s).2.1 = some a) (k : Nat) (rest : List Ev) :
    spanRun ((p.run view s).1 ++ rest) (some (k + d)) = spanRun rest (some k) := by
  -- an event of `p` is one step of `run` and one step of `spanRun`; both unfold by computation
  induction hb generalizing s k with
  | ret a' => rfl
  | panic d => cases h
  | call d c kk _ ih => exact ih _ _ h k
  | start d name kk _ ih => exact ih s h k
  | finish d kk _ ih => exact ih s h k

theorem reqStep_spans (pf : FloatOracle) (srv : SrvSt) (conn : ConnSt) (m : Msg) (script : List HRes)
    (hc : Ev.crash ∉ (reqStep pf srv conn m script).evs) (rest : List Ev) :
    spanRun ((reqStep pf srv conn m script).evs ++ rest) (some 0) = spanRun rest none := by
  cases reqStep_cases pf srv conn m script with
  | panic _ h | unserializable _ _ _ _ _ h => simp [h] at hc
  | replied out c' s' bs hres _ h =>
    -- the executor's events leave the depth at 0 (`bal_run`); the response span and the root's finish follow
    rw [h, List.append_assoc, bal_run _ 0 (bal_handleMessage pf srv conn m) conn script _ hres 0]
    rfl

theorem steps_spans (pf : FloatOracle) (srv : SrvSt) (conn : ConnSt) (ms : List Msg) (script : List HRes)
    (hc : Ev.crash ∉ steps pf srv conn ms script) (rest : List Ev) :
    spanRun (steps pf srv conn ms script ++ rest) none = spanRun rest none := by
  induction ms generalizing srv conn script with
  | nil => rfl
  | cons m ms ih =>
    simp only [steps, List.mem_append, not_or] at hc
    simp only [steps, List.cons_append, List.nil_append, List.append_assoc, spanRun]
    rw [reqStep_spans pf srv conn m script hc.2.1]
    cases hn : (reqStep pf srv conn m script).next with
    | none => rfl
    | some p => rw [hn] at hc; exact ih _ _ _ hc.2.2

end GoRedis
