import GoRedisModel.Proofs.Dispatch
import GoRedisModel.Proofs.Trace
/-! One request: which command it dispatches, the ways it can end, and the state it leaves behind. -/
namespace GoRedis

/-- the (command, arguments) pair `handleArrayMessage` ends up dispatching for a request value, if any -/
def dispatchedOf : Nat → List Msg → Option (Bytes × List Msg)
  | 0, _ => none
  | _+1, [] => none
  | _+1, .absent :: _ => none
  | f+1, .arr es :: _ => dispatchedOf f es
  | _+1, .arrNil :: _ => none
  | _+1, first :: rest => match msgStr first with
    | .error _ => none
    | .ok cmd => some (cmd, rest)

def dispatched (m : Msg) : Option (Bytes × List Msg) :=
  match m with
  | .arr es => dispatchedOf (depth m + 1) es
  | _ => none

/-- **What a request value turns out to be**: the command it dispatches; or no command at all, and then its program either
panics (a nil array where a command is expected) or returns an outcome that can be serialized and leaves both states
alone.  `d` is what is dispatched, `p` the program, `nilFree` whether the value is free of nil pointers. -/
inductive Routed (pf : FloatOracle) (srv : SrvSt) (conn : ConnSt) (d : Option (Bytes × List Msg))
    (p : Prog (Out × ConnSt × SrvSt)) (nilFree : Bool) : Prop
  | command (cmd : Bytes) (args : List Msg) :
      d = some (cmd, args) → p = executeCommand pf srv conn cmd args → Routed pf srv conn d p nilFree
  | nilArray : d = none → nilFree = false → p = .panic → Routed pf srv conn d p nilFree
  | noCommand (o : Out) :
      d = none → (replyBytes o).isSome = true → p = .ret (o, conn, srv) → Routed pf srv conn d p nilFree

theorem handleArray_cases (pf : FloatOracle) (srv : SrvSt) (conn : ConnSt) (f : Nat) (es : List Msg) :
    Routed pf srv conn (dispatchedOf f es) (handleArray pf srv conn f es) (noAbsents es) := by
  induction f generalizing es with
  | zero => exact .noCommand _ rfl rfl rfl
  | succ f ih =>
    match es with
    | [] | .absent :: _ => exact .noCommand _ rfl rfl rfl
    | .arrNil :: _ => exact .nilArray rfl rfl rfl
    | .arr es' :: rest =>
      -- the nested array is descended into; a nil pointer in it is one in the whole value
      cases ih es' with
      | command cmd args hd hp => exact .command cmd args hd hp
      | nilArray hd hn hp => exact .nilArray hd (by simp [noAbsents, noAbsent, hn]) hp
      | noCommand o hd ho hp => exact .noCommand o hd ho hp
    | .line .str _ :: _ | .bulk (some _) :: _ => exact .command _ _ rfl rfl
    | .line .err _ :: _ | .line .int _ :: _ | .bulk none :: _ => exact .noCommand _ rfl rfl rfl

/-- **A request either is the command it dispatches, or does nothing.** -/
theorem handleMessage_cases (pf : FloatOracle) (srv : SrvSt) (conn : ConnSt) (m : Msg) :
    Routed pf srv conn (dispatched m) (handleMessage pf srv conn m) (noAbsent m) := by
  cases m with
  | arr es => exact handleArray_cases pf srv conn _ es
  | _ => exact .noCommand _ rfl rfl rfl

/-- the events with which a request's block ends when its reply is written, behind those of its executor -/
def replyEvs (bs : Bytes) : List Ev := [.spanStart b!"response", .wr bs, .spanFinish, .topFinish]

/-- **The three ways one request ends**: what `reqStep` returns (`st`), given the run `r` of the request's program. -/
inductive ReqEnd (r : List Ev × Option (Out × ConnSt × SrvSt) × List HRes) (st : StepRes) : Prop
  | panic : r.2.1 = none → st = ⟨r.1 ++ [.crash], none, r.2.2⟩ → ReqEnd r st
  /-- the outcome holds a nil pointer: serializing it panics, inside the response span -/
  | unserializable (out : Out) (c' : ConnSt) (s' : SrvSt) :
      r.2.1 = some (out, c', s') → replyBytes out = none →
      st = ⟨r.1 ++ [.spanStart b!"response", .crash], none, r.2.2⟩ → ReqEnd r st
  | replied (out : Out) (c' : ConnSt) (s' : SrvSt) (bs : Bytes) :
      r.2.1 = some (out, c', s') → replyBytes out = some bs →
      st = ⟨r.1 ++ replyEvs bs, if out.isQuit then none else some (c', s'), r.2.2⟩ → ReqEnd r st

theorem reqStep_cases (pf : FloatOracle) (srv : SrvSt) (conn : ConnSt) (m : Msg) (script : List HRes) :
    ReqEnd ((handleMessage pf srv conn m).run conn script) (reqStep pf srv conn m script) := by
  unfold reqStep
  obtain ⟨evs, res, script'⟩ := (handleMessage pf srv conn m).run conn script
  match res with
  | none => exact .panic rfl rfl
  | some (out, c', s') =>
    cases h : replyBytes out with
    | none => exact .unserializable out c' s' rfl h (by simp only [h])
    | some bs => exact .replied out c' s' bs rfl h (by simp only [h]; rfl)

/-- the third way, from the run: a request whose program returns an outcome that can be serialized -/
theorem reqStep_replied (pf : FloatOracle) (srv : SrvSt) (conn : ConnSt) (m : Msg) (script : List HRes)
    {evs : List Ev} {out : Out} {c' : ConnSt} {s' : SrvSt} {script' : List HRes} {bs : Bytes}
    (hrun : (handleMessage pf srv conn m).run conn script = (evs, some (out, c', s'), script'))
    (hb : replyBytes out = some bs) :
    reqStep pf srv conn m script = ⟨evs ++ replyEvs bs, if out.isQuit then none else some (c', s'), script'⟩ := by
  simp only [reqStep, hrun, hb]; rfl

/-- a handler call in a request's block is one of its executor's: the loop adds none -/
theorem reqStep_call_mem (pf : FloatOracle) (srv : SrvSt) (conn : ConnSt) (m : Msg) (script : List HRes)
    (e : Ev) (he : e ∈ (reqStep pf srv conn m script).evs) (hc : e.isCall = true) :
    e ∈ ((handleMessage pf srv conn m).run conn script).1 := by
  cases reqStep_cases pf srv conn m script with
  | panic _ h | unserializable _ _ _ _ _ h | replied _ _ _ _ _ _ h =>
    -- the block is the executor's events followed by events of the loop itself (`ht`), none of which is a call
    rw [h, List.mem_append] at he
    refine he.resolve_right fun ht => ?_
    simp only [replyEvs, List.mem_cons, List.not_mem_nil, or_false] at ht
    rcases ht with rfl | rfl | rfl | rfl <;> cases hc

/-! ## The state a request leaves behind -/

/-- the connection state after one dispatched command (when the executor returns): only the six system
commands can change it, and only on an authorized connection or through AUTH -/
def connAfterCmd (srv : SrvSt) (conn : ConnSt) (cmd : Bytes) (args : List Msg) : ConnSt :=
  if !srv.hasHandler then conn else
  match execSystem srv conn (upper cmd) args with
  | some (_, c', _) => if !conn.authorized && upper cmd != b!"AUTH" then conn else c'
  | none => conn

/-- the connection state after one request value -/
def connStep (srv : SrvSt) (conn : ConnSt) (m : Msg) : ConnSt :=
  match dispatched m with
  | none => conn
  | some (cmd, args) => connAfterCmd srv conn cmd args

theorem connAfterCmd_eq (srv : SrvSt) (conn : ConnSt) (cmd : Bytes) (args : List Msg) :
    connAfterCmd srv conn cmd args =
      if !srv.hasHandler || (!conn.authorized && upper cmd != b!"AUTH") then conn
      else sysConn (authenticate srv) conn (upper cmd) args := by
  unfold connAfterCmd
  cases h : execSystem srv conn (upper cmd) args with
  | some x => simp only [(execSystem_some h).2.1]; cases srv.hasHandler <;> simp
  | none =>
    have hu := execSystem_eq_none.mp h
    simp only [systemNames, List.mem_cons, List.not_mem_nil, or_false, not_or] at hu
    simp [sysConn, hu]

/-- **What a command leaves behind**, whatever the handler answers: the connection state `connAfterCmd`, and a server
state with the same authentication settings. -/
theorem executeCommand_run (pf : FloatOracle) (srv : SrvSt) (conn : ConnSt) (cmd : Bytes) (args : List Msg)
    (view : ConnSt) (s : List HRes) (x : Out × ConnSt × SrvSt)
    (h : ((executeCommand pf srv conn cmd args).run view s).2.1 = some x) :
    x.2.1 = connAfterCmd srv conn cmd args ∧ x.2.2.sameAuth srv := by
  rw [executeCommand_eq] at h
  unfold connAfterCmd
  split at h
  · rename_i hh
    cases h
    exact ⟨(if_pos hh).symm, srv.sameAuth_refl⟩
  · rename_i hh
    rw [if_neg hh]
    cases hs : execSystem srv conn (upper cmd) args with
    | some y =>
      simp only [hs] at h ⊢
      split at h <;> rename_i hg <;> cases h
      · exact ⟨(if_pos hg).symm, srv.sameAuth_refl⟩
      · exact ⟨(if_neg hg).symm, (execSystem_some hs).2.2⟩
    | none =>
      simp only [hs] at h ⊢
      split at h
      · rw [run_bind] at h
        split at h <;> cases h
        exact ⟨rfl, srv.sameAuth_refl⟩
      · cases h; exact ⟨rfl, srv.sameAuth_refl⟩

/-- **What a request leaves behind**: if the loop goes on after request `m`, the connection's state is
`connStep` of its previous state — a function of that connection's own state, the request, and the server's
static authentication settings; neither the handler's answers nor the configuration table nor anything
another connection did enters. -/
theorem reqStep_connStep (pf : FloatOracle) (srv : SrvSt) (conn : ConnSt) (m : Msg) (script : List HRes)
    (c' : ConnSt) (s' : SrvSt) (h : (reqStep pf srv conn m script).next = some (c', s')) :
    c' = connStep srv conn m ∧ s'.sameAuth srv := by
  cases reqStep_cases pf srv conn m script with
  | panic _ hst | unserializable _ _ _ _ _ hst => rw [hst] at h; cases h
  | replied out c2 s2 bs hres _ hst =>
    rw [hst] at h
    split at h
    · cases h
    · -- no QUIT: the loop goes on with the states the program returned
      cases h
      unfold connStep
      cases handleMessage_cases pf srv conn m with
      | command cmd args hd hp =>
        rw [hd]; rw [hp] at hres; exact executeCommand_run pf srv conn cmd args conn script _ hres
      | nilArray _ _ hp => rw [hp] at hres; cases hres
      | noCommand o hd _ hp => rw [hd]; rw [hp] at hres; cases hres; exact ⟨rfl, srv.sameAuth_refl⟩

theorem connStep_static (a b : SrvSt) (conn : ConnSt) (m : Msg) (h : a.sameAuth b) :
    connStep a conn m = connStep b conn m := by
  have : authenticate a = authenticate b := by funext c; simp [authenticate, h.1, h.2.1]
  unfold connStep
  split
  · rfl
  · simp only [connAfterCmd_eq, this, h.2.2]

end GoRedis
