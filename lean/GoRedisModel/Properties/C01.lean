import GoRedisModel.Model.ParserImpl
import GoRedisModel.Generated.Facts
import GoRedisModel.Proofs.Parse
import GoRedisModel.Model.Ctor
/-! # C01 — RESP values survive encode/decode unchanged; bulk payloads are binary-safe

Only the property theorems and their non-vacuity examples live here; helper lemmas are in `Proofs/`. -/
namespace GoRedis

/-- Serializing any canonical RESP2 value tree and parsing the bytes back yields the same tree, with any
trailing bytes left untouched — for every tree (any arity, any nesting) and any fuel above its depth. -/
theorem C01_parse_enc (m : Msg) (hw : wf m) (f : Nat) (hf : depth m < f) (rest : Bytes) :
    parse f (enc m ++ rest) = .ok m rest :=
  parse_enc m hw f hf rest

/-- Canonical bytes are a fixed point of parse ∘ serialize. -/
theorem C01_reencode (m : Msg) (hw : wf m) (f : Nat) (hf : depth m < f) :
    ∃ m', parse f (enc m) = .ok m' [] ∧ enc m' = enc m := by
  refine ⟨m, ?_, rfl⟩
  simpa using parse_enc m hw f hf []

/-- Bulk payloads are binary-safe: no condition on the payload's bytes at all (only its length bound). -/
theorem C01_bulk_binary_safe (p : Bytes) (hl : p.length ≤ maxBulk) (f : Nat) (rest : Bytes) :
    parse (f + 1) (enc (.bulk (some p)) ++ rest) = .ok (.bulk (some p)) rest :=
  parse_enc (.bulk (some p)) hl (f + 1) (Nat.zero_lt_succ f) rest

/-- The length prefix is the decimal payload length. -/
theorem C01_len_prefix (p : Bytes) :
    enc (.bulk (some p)) = bulkByte :: dec p.length ++ CRLF ++ p ++ CRLF := rfl

theorem C01_null_bulk (f : Nat) (rest : Bytes) :
    parse (f + 1) (enc (.bulk none) ++ rest) = .ok (.bulk none) rest :=
  parse_enc (.bulk none) trivial (f + 1) (Nat.zero_lt_succ f) rest

/-- `NewIntegerMessage(n)` decodes back to `n` for every 64-bit `n`. -/
theorem C01_ctor_int (i : Int) (h : inInt64 i = true) (f : Nat) (rest : Bytes) :
    ∃ m, parse (f + 1) (enc (newInteger i) ++ rest) = .ok m rest ∧ msgInteger m = some i :=
  ⟨newInteger i, parse_enc (newInteger i) (itoa_no_crlf i) (f + 1) (Nat.zero_lt_succ f) rest, atoi_itoa i h⟩

theorem C01_ctor_status (p : Bytes) (h1 : CR ∉ p) (h2 : LF ∉ p) (f : Nat) (rest : Bytes) :
    parse (f + 1) (enc (newStatus p) ++ rest) = .ok (.line .str p) rest :=
  parse_enc (newStatus p) ⟨h1, h2⟩ (f + 1) (Nat.zero_lt_succ f) rest

theorem C01_ctor_error (p : Bytes) (h1 : CR ∉ p) (h2 : LF ∉ p) (f : Nat) (rest : Bytes) :
    parse (f + 1) (enc (newError p) ++ rest) = .ok (.line .err p) rest :=
  parse_enc (newError p) ⟨h1, h2⟩ (f + 1) (Nat.zero_lt_succ f) rest

theorem C01_ctor_ok (f : Nat) (rest : Bytes) :
    parse (f + 1) (enc okMsg ++ rest) = .ok (.line .str b!"OK") rest :=
  parse_enc okMsg (by simp [okMsg, wf, CR, LF]) (f + 1) (Nat.zero_lt_succ f) rest

theorem C01_ctor_bulk (p : Bytes) (hl : p.length ≤ maxBulk) (f : Nat) (rest : Bytes) :
    parse (f + 1) (enc (newBulk p) ++ rest) = .ok (.bulk (some p)) rest :=
  C01_bulk_binary_safe p hl f rest

theorem C01_ctor_nil (f : Nat) (rest : Bytes) :
    parse (f + 1) (enc newNil ++ rest) = .ok (.bulk none) rest := C01_null_bulk f rest

/-- `NewStringArrayMessage(strs)` decodes back to the same strings, in order, whatever bytes they hold. -/
theorem C01_ctor_string_array (ss : List Bytes) (h : ∀ s ∈ ss, s.length ≤ maxBulk) (hn : ss.length ≤ maxInt)
    (f : Nat) (rest : Bytes) :
    parse (f + 2) (enc (stringArray ss) ++ rest) = .ok (.arr (ss.map newBulk)) rest := by
  have hw : wf (stringArray ss) := ⟨by simpa using hn, (wfs_iff _).mpr (List.forall_mem_map.mpr h)⟩
  -- the elements are bulk strings, of depth 0: the array has depth 1
  have hd : depths (ss.map newBulk) ≤ 0 := (depths_le_iff _ 0).mpr (List.forall_mem_map.mpr fun _ _ => Nat.le_refl 0)
  exact parse_enc (stringArray ss) hw (f + 2) (by simp only [stringArray, depth]; omega) rest

/-- `NewFloatMessage`: stated for an abstract formatter/parser pair under the `strconv` contract
(shortest formatting parses back to the same value); the framing around the text is the model's. -/
theorem C01_ctor_float {F : Type} (ff : F → Bytes) (pf : Bytes → Option F)
    (law : ∀ x, pf (ff x) = some x) (hlen : ∀ x, (ff x).length ≤ maxBulk) (x : F) (f : Nat) (rest : Bytes) :
    ∃ m, parse (f + 1) (enc (newFloat ff x) ++ rest) = .ok m rest ∧ (msgString m).bind pf = some x :=
  ⟨.bulk (some (ff x)), C01_bulk_binary_safe _ (hlen x) f rest, law x⟩

/-! ## Non-vacuity: concrete non-trivial values meet the hypotheses -/

/-- a depth-3 tree whose bulk payload contains `\r\n$-1\r\n` and a forged `+OK` -/
def sampleTree : Msg :=
  .arr [.bulk (some b!"a\r\n$-1\r\n+OK\r\n"), .arr [.arr [.line .int b!"-12", .bulk none], .line .err b!"ERR x"], .arr []]

example : wf sampleTree ∧ depth sampleTree < 4 := by
  refine ⟨?_, by decide⟩
  simp [sampleTree, wf, wfs, CR, LF, maxInt, maxBulk]

example : parse 4 (enc sampleTree ++ b!"rest") = .ok sampleTree b!"rest" :=
  C01_parse_enc sampleTree (by simp [sampleTree, wf, wfs, CR, LF, maxInt, maxBulk]) 4 (by decide) _

example : inInt64 (-9223372036854775808) = true ∧ inInt64 9223372036854775807 = true := by decide

/-! ## The current source -/

/-- the RESP type bytes of the current source are the model's (regenerated on every run) -/
theorem C01_source_type_bytes :
    Generated.typeBytes = [("arrayMessageByte", "*"), ("bulkMessageByte", "$"), ("errorMessageByte", "-"),
    ("integerMessageByte", ":"), ("stringMessageByte", "+")] := by decide +kernel

/-- **The serializer source is the one that was transcribed** (regenerated on every run): `Message.RESPBytes` and
`Array.RESPBytes` have the fingerprints `enc` was written from -/
theorem C01_source_serializer_is_the_modelled_one :
    serializerModelled.all (fun e => Generated.protoFingerprints.contains (e.1, e.2.1)) = true := by decide +kernel

end GoRedis
