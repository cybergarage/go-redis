import GoRedisModel.Proofs.LifeSys
import GoRedisModel.Model.Lifecycle
import GoRedisModel.Proofs.ControlFacts
/-! # C15 — Start/Stop/Restart leave the server in the state the call promises

`LS` (Model/LifeSys) is the lifecycle as a transition system whose actions are the four phases of Stop, Start,
and what the accept loops and connection goroutines do on their own; a *schedule* is any list of actions
(an action that is not enabled does nothing), so "for every schedule" is "for every interleaving". -/
namespace GoRedis

/-- the invariant holds in every state reachable by any schedule from a freshly created server -/
theorem C15_invariant (plain tls : Bool) (sched : List LAct) :
    LInv (({ plain := plain, tls := tls } : LS).run sched) :=
  LInv.run _ (LInv.init plain tls) sched

/-- **After Start/Restart returned and until Stop is called, the server accepts on every enabled port**, under
every scheduling of the previous accept loops' shutdown: the current generation's listener is open, its
accept loop is alive, and an accept succeeds. -/
theorem C15_serving (plain tls : Bool) (sched : List LAct) (g : Nat) (k : Bool)
    (hs : (({ plain := plain, tls := tls } : LS).run sched).phase = .idle)
    (hf : (({ plain := plain, tls := tls } : LS).run sched).field = some g)
    (hk : k ∈ (({ plain := plain, tls := tls } : LS).run sched).kinds) :
    let s := ({ plain := plain, tls := tls } : LS).run sched
    (g, k) ∈ s.openL ∧ (s.step (.accept g k)).conns.length = s.conns.length + 1 := by
  intro s
  have inv := C15_invariant plain tls sched
  obtain ⟨hopen, l, hl, h1, h2, h3⟩ := inv.serving hs g hf k hk
  exact ⟨hopen, accept_enabled s g k (List.contains_iff_mem.mpr hopen) (List.any_eq_true.mpr ⟨l, hl, by simp [h1, h2, h3]⟩)⟩

/-- **After Stop returned**: no listener of any generation is open (the ports can be bound again), no accept
loop remains, the registry is empty and no connection goroutine is left. -/
theorem C15_stop_clean (plain tls : Bool) (sched : List LAct)
    (hs : (({ plain := plain, tls := tls } : LS).run sched).phase = .idle)
    (hf : (({ plain := plain, tls := tls } : LS).run sched).field = none) :
    let s := ({ plain := plain, tls := tls } : LS).run sched
    s.openL = [] ∧ s.loops = [] ∧ s.conns = [] := by
  intro s
  have inv := C15_invariant plain tls sched
  exact ⟨inv.noListen hf, inv.noLoops (Or.inr (Or.inr ⟨hs, hf⟩)), inv.stopped hs hf⟩

/-- **While running, the registry contains exactly connections being served**: a registered connection has a
live goroutine and an open socket; a connection that left the registry has its socket closed. -/
theorem C15_registry_exact (plain tls : Bool) (sched : List LAct) (c : ConnG)
    (hc : c ∈ (({ plain := plain, tls := tls } : LS).run sched).conns) :
    (c.registered = true → c.alive = true ∧ c.sockOpen = true) ∧ (c.registered = false → c.sockOpen = false) :=
  ⟨(C15_invariant plain tls sched).registry c hc, (C15_invariant plain tls sched).unreg c hc⟩

/-- an accept loop that ends — of whatever generation, at whatever time — touches neither the listeners nor the
server's fields (before the repair it closed whatever the fields held at that moment) -/
theorem C15_exiting_loop_is_harmless (s : LS) (g : Nat) (k : Bool) :
    (s.step (.loopExit g k)).openL = s.openL ∧ (s.step (.loopExit g k)).field = s.field ∧
    (s.step (.loopExit g k)).conns = s.conns := by
  simp only [LS.step]
  split <;> exact ⟨rfl, rfl, rfl⟩

/-- Stop does not get past its second phase while an accept loop is still running -/
theorem C15_stop_waits_for_loops (s : LS) (h : s.loops.any (fun l => !l.exited) = true) :
    s.step .stopWaitLoops = s := by
  have : s.loops.all (fun l => l.exited) = false := by rw [List.all_eq_not_any_not, h]; rfl
  simp [LS.step, this]

/-- …nor return while a connection goroutine is alive -/
theorem C15_stop_waits_for_connections (s : LS) (h : s.conns.any (fun c => c.alive) = true) :
    s.step .stopWaitConns = s := by
  have : s.conns.all (fun c => !c.alive) = false := by
    rwa [List.any_eq_not_all_not, Bool.not_eq_true'] at h
  simp [LS.step, this]

/-! ## The client-visible state machine (what the correspondence check compares action by action) -/

theorem C15_seq_stop (cfg : LifeCfg) (s : LifeSt) :
    (lifeStepA cfg s .stop).2.running = false ∧ (lifeStepA cfg s .stop).2.conns = [] := ⟨rfl, rfl⟩

theorem C15_seq_start_serves (cfg : LifeCfg) (s : LifeSt) (h : s.running = false) (hp : cfg.plain = true)
    (hsess : plainSession cfg = "ok") :
    (lifeStepA cfg (lifeStepA cfg s .start).2 (.ping false "good")).1 = "ok" := by
  simp [lifeStepA.eq_def, h, LifeCfg.up, hp, hsess]

/-! ## Non-vacuity: a Restart whose old accept loop exits late -/
def restartLate : List LAct :=
  [.start, .accept 1 false, .stopCloseListeners, .stopWaitLoops /- not enabled yet -/, .loopExit 1 false,
   .stopWaitLoops, .stopCloseConns, .stopWaitConns /- not enabled: goroutine alive -/, .connEnd 0, .stopWaitConns,
   .start, .loopExit 1 false /- a stale exit of the old generation -/, .accept 2 false]

example : (({} : LS).run restartLate).openL = [(2, false)] ∧ (({} : LS).run restartLate).conns.length = 1 ∧
    (({} : LS).run restartLate).phase = .idle := by decide

/-- the control flow of Start/Stop/accept loops in the current source is the one the transition system models -/
theorem C15_source_lifecycle :
    lifecycleFactsOK = true := source_lifecycle_matches_transition_system

/-- **The source is the one the model was written from** (regenerated on every run): the lifecycle functions (`Start`, `Stop`, `Restart`, `open`, `close`, `serve`, `tlsServe`, `startConn`) of the current source
have the fingerprints recorded in the model; a change to any of them means the theorems above are not shown for the code
as it is now, until the model has been compared with it again -/
theorem C15_source_lifecycle_is_the_modelled_one :
    lifecycleModelled.all (fun e => Generated.serverFingerprints.contains (e.1, e.2.1)) = true := source_lifecycle_is_the_modelled_one

end GoRedis
