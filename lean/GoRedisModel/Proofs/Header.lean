import GoRedisModel.Model.ParserSpec
import GoRedisModel.Proofs.Dec
/-! What a type byte and its header line announce (`hdr`), and `parse` in terms of it: the case analysis on the type
byte, `atoi` of the line, its sign and the bulk limit is made here once; every later proof about `parse` or `inext`
looks at the five outcomes of `hdr`. -/
namespace GoRedis

/-- `nextLineBytes` on `d CR LF X` cut after `j` bytes, wherever the cut falls: inside `d`, right after the CR, or later -/
theorem takeLine_take (d X : Bytes) (h : CR ∉ d) (j : Nat) :
    takeLine ((d ++ CR :: LF :: X).take j) = (d.take j, X.take (j - d.length - 2)) := by
  induction d generalizing j with
  | nil => rcases j with _ | _ | j <;> simp [takeLine]
  | cons b bs ih =>
    match j with
    | 0 => simp [takeLine]
    | j + 1 =>
      have hb : (b == CR) = false := by simpa using fun e : b = CR => h (by simp [e])
      simp [takeLine, hb, ih (fun e => h (List.mem_cons_of_mem _ e)) j]

theorem takeLine_append (p rest : Bytes) (h : CR ∉ p) : takeLine (p ++ CR :: LF :: rest) = (p, rest) := by
  have := takeLine_take p rest h (p ++ CR :: LF :: rest).length
  rwa [List.take_length, List.take_of_length_le (by simp), List.take_of_length_le (by simp)] at this

theorem takeLine_length_le (bs : Bytes) : (takeLine bs).1.length ≤ bs.length ∧ (takeLine bs).2.length ≤ bs.length := by
  induction bs with
  | nil => simp [takeLine]
  | cons b bs ih =>
    unfold takeLine
    split
    · simp; omega
    · simp; omega

inductive Hdr where
  | arr (n : Nat)
  | null
  | bulk (k : Nat) (hk : k ≤ maxBulk)
  | line (ty : LineTy)
  | bad

/-- the decision both parsers take once they have the type byte `t` and the line `ln` behind it (a negative array count
is the empty array: `.arr 0`, whose element loop returns at once) -/
def hdr (t : UInt8) (ln : Bytes) : Hdr :=
  if t == arrayByte then
    match atoi ln with
    | none => .bad
    | some n => .arr n.toNat
  else if t == bulkByte then
    match atoi ln with
    | none => .bad
    | some n => if n < 0 then .null else if h : n.toNat > maxBulk then .bad else .bulk n.toNat (Nat.le_of_not_gt h)
  else match lineTy? t with
    | none => .bad
    | some ty => .line ty

theorem maxBulk_le_maxInt : maxBulk ≤ maxInt := by decide

theorem hdr_arr (ln : Bytes) :
    hdr arrayByte ln = match atoi ln with | none => .bad | some n => .arr n.toNat := rfl

theorem hdr_bulk (ln : Bytes) :
    hdr bulkByte ln = match atoi ln with
      | none => .bad
      | some n => if n < 0 then .null else if h : n.toNat > maxBulk then .bad else .bulk n.toNat (Nat.le_of_not_gt h) := rfl

theorem hdr_arr_dec (n : Nat) (h : n ≤ maxInt) : hdr arrayByte (dec n) = .arr n := by
  rw [hdr_arr, atoi_dec n h]
  rfl

theorem hdr_bulk_dec (k : Nat) (h : k ≤ maxBulk) : hdr bulkByte (dec k) = .bulk k h := by
  have hk : ¬ maxBulk < k := by omega
  have h0 : ¬ (k : Int) < 0 := by omega
  simp [hdr_bulk, atoi_dec k (Nat.le_trans h maxBulk_le_maxInt), hk, h0]

theorem hdr_null : hdr bulkByte [45, 49] = .null := rfl

theorem hdr_line (ty : LineTy) (ln : Bytes) : hdr ty.byte ln = .line ty := by
  cases ty <;> rfl

/-- the payload step of a bulk string on a flat stream -/
def bulkBody (k : Nat) (r : Bytes) : PRes :=
  if r.length < k + 2 then .err
  else if (r.drop k).take 2 == CRLF then .ok (.bulk (some (r.take k))) (r.drop (k + 2))
  else .err

theorem parse_cons (f : Nat) (t : UInt8) (bs : Bytes) :
    parse (f + 1) (t :: bs) =
      match hdr t (takeLine bs).1 with
      | .arr n => parseElems (parse f) n (takeLine bs).2 []
      | .null => .ok (.bulk none) (takeLine bs).2
      | .bulk k _ => bulkBody k (takeLine bs).2
      | .line ty => .ok (.line ty (takeLine bs).1) (takeLine bs).2
      | .bad => .err := by
  unfold parse hdr
  by_cases ha : (t == arrayByte) = true
  · rw [if_pos ha, if_pos ha]
    cases atoi (takeLine bs).1 with
    | none => rfl
    | some n =>
      dsimp only
      by_cases hn : n < 0
      · rw [if_pos hn, Int.toNat_of_nonpos (Int.le_of_lt hn)]; rfl
      · rw [if_neg hn]
  · rw [if_neg ha, if_neg ha]
    by_cases hb : (t == bulkByte) = true
    · rw [if_pos hb, if_pos hb]
      cases atoi (takeLine bs).1 with
      | none => rfl
      | some n =>
        dsimp only
        by_cases hn : n < 0
        · rw [if_pos hn, if_pos hn]
        · rw [if_neg hn, if_neg hn]
          by_cases hk : n.toNat > maxBulk
          · rw [if_pos hk, dif_pos hk]
          · rw [if_neg hk, dif_neg hk]; rfl
    · rw [if_neg hb, if_neg hb]
      cases lineTy? t <;> rfl

theorem bulkBody_cases (k : Nat) (r : Bytes) :
    bulkBody k r = .err ∨ bulkBody k r = .ok (.bulk (some (r.take k))) (r.drop (k + 2)) := by
  unfold bulkBody
  split
  · exact .inl rfl
  · split
    · exact .inr rfl
    · exact .inl rfl

theorem parse_cases (f : Nat) (t : UInt8) (bs : Bytes) :
    parse (f + 1) (t :: bs) = .err ∨
    (∃ n, parse (f + 1) (t :: bs) = parseElems (parse f) n (takeLine bs).2 []) ∨
    (∃ m j, parse (f + 1) (t :: bs) = .ok m ((takeLine bs).2.drop j) ∧ noAbsent m = true) := by
  rw [parse_cons]
  cases hdr t (takeLine bs).1 with
  | arr n => exact .inr (.inl ⟨n, rfl⟩)
  | null => exact .inr (.inr ⟨_, 0, rfl, rfl⟩)
  | bulk k _ =>
    rcases bulkBody_cases k (takeLine bs).2 with h | h
    · exact .inl h
    · exact .inr (.inr ⟨_, _, h, rfl⟩)
  | line ty => exact .inr (.inr ⟨_, 0, rfl, rfl⟩)
  | bad => exact .inl rfl

end GoRedis
