import GoRedisModel.Proofs.Header
/-! The reference parser is total: it consumes at least a byte per value, never runs out of fuel above the input
length, never returns an absent element.  One induction on the fuel over the three shapes of `parse_cases`
(`parse_outcome`); the element loop carries the facts as an invariant (`parseElems_inv`). -/
namespace GoRedis

theorem parseElems_inv (p : Bytes → PRes) (I : Bytes → List Msg → Prop)
    (step : ∀ r acc m r', I r acc → p r = .ok m r' → I r' (m :: acc))
    (n : Nat) (r : Bytes) (acc : List Msg) (h0 : I r acc) :
    match parseElems p n r acc with
    | .ok m r' => ∃ acc', m = .arr acc'.reverse ∧ I r' acc'
    | .fuel => ∃ r' acc', I r' acc' ∧ p r' = .fuel
    | _ => True := by
  induction n generalizing r acc with
  | zero => exact ⟨acc, rfl, h0⟩
  | succ n ih =>
    simp only [parseElems]
    cases hp : p r with
    | ok m r' => exact ih _ _ (step _ _ _ _ h0 hp)
    | fuel => exact ⟨r, acc, h0, hp⟩
    | _ => trivial

theorem noAbsents_iff (l : List Msg) : noAbsents l = true ↔ ∀ m ∈ l, noAbsent m = true := by
  induction l with
  | nil => simp [noAbsents]
  | cons x xs ih => simp [noAbsents, ih]

theorem noAbsents_subset {l l' : List Msg} (hs : l' ⊆ l) (h : noAbsents l = true) : noAbsents l' = true :=
  (noAbsents_iff l').mpr fun m hm => (noAbsents_iff l).mp h m (hs hm)

theorem parse_outcome (f : Nat) (bs : Bytes) :
    match parse f bs with
    | .ok m rest => rest.length < bs.length ∧ noAbsent m = true
    | .fuel => f ≤ bs.length
    | _ => True := by
  induction f generalizing bs with
  | zero => exact Nat.zero_le _
  | succ f ih =>
    cases bs with
    | nil => trivial
    | cons t bs =>
      have hl := takeLine_length_le bs
      rcases parse_cases f t bs with e | ⟨n, e⟩ | ⟨m, j, e, hm⟩ <;> rw [e]
      · trivial
      · have := parseElems_inv (parse f) (fun r acc => r.length ≤ (takeLine bs).2.length ∧ noAbsents acc = true)
          (fun r acc m r' hr hp => by
            have := ih r; rw [hp] at this
            exact ⟨Nat.le_trans (Nat.le_of_lt this.1) hr.1, by simp [noAbsents, this.2, hr.2]⟩)
          n _ [] ⟨Nat.le_refl _, rfl⟩
        cases h : parseElems (parse f) n (takeLine bs).2 [] <;> rw [h] at this
        · obtain ⟨acc, rfl, hle, hacc⟩ := this
          exact ⟨Nat.lt_succ_of_le (Nat.le_trans hle hl.2),
            by simpa [noAbsent] using noAbsents_subset (fun _ h => List.mem_reverse.mp h) hacc⟩
        · trivial
        · trivial
        · obtain ⟨r', _, hle, hp⟩ := this
          have := ih r'
          rw [hp] at this
          exact Nat.succ_le_succ (Nat.le_trans this (Nat.le_trans hle.1 hl.2))
      · exact ⟨by simp; omega, hm⟩

theorem parse_rest_lt (f : Nat) (bs : Bytes) (m : Msg) (rest : Bytes)
    (h : parse f bs = .ok m rest) : rest.length < bs.length := by
  have := parse_outcome f bs
  rw [h] at this
  exact this.1

theorem parse_noAbsent (f : Nat) (bs : Bytes) (m : Msg) (rest : Bytes)
    (h : parse f bs = .ok m rest) : noAbsent m = true := by
  have := parse_outcome f bs
  rw [h] at this
  exact this.2

/-- With fuel above the input length the reference parser never runs out of fuel:
nesting depth is bounded by input length. -/
theorem parse_no_fuel (f : Nat) (bs : Bytes) (h : bs.length < f) : parse f bs ≠ .fuel := by
  intro hfu
  have := parse_outcome f bs
  rw [hfu] at this
  omega

end GoRedis
