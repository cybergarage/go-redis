import GoRedisModel.Model.ReverseBy
/-! The loops of `Array.ReverseBy` compute the reversal by groups, never index out of range, and run out of fuel for no
input. -/
namespace GoRedis.Ex
open GoRedis

/-- the inner loop reads the group behind `a`, whatever surrounds it: no index leaves the slice -/
theorem groupAt_append {α : Type} (a g b : List α) : groupAt (a ++ g ++ b) a.length g.length = some g := by
  induction g generalizing a with
  | nil => rfl
  | cons x g ih =>
    have := ih (a ++ [x])
    simp only [List.append_assoc, List.cons_append, List.nil_append, List.length_append, List.length_singleton] at this ⊢
    simp [groupAt, this]

theorem exists_suffix {α : Type} (p : List α) (n : Nat) (h : n ≤ p.length) : ∃ p₁ g, p = p₁ ++ g ∧ g.length = n :=
  ⟨p.take (p.length - n), p.drop (p.length - n), (List.take_append_drop ..).symm, by rw [List.length_drop, Nat.sub_sub_self h]⟩

/-- `revTail` by its two equations: a full group at the end moves to the front, a shorter rest stays -/
theorem revTail_append {α : Type} (step f : Nat) (p g : List α) (hg : g.length = step) :
    revTail step (f + 1) (p ++ g) = g ++ revTail step f p := by
  have hl : (p ++ g).length - step = p.length := by rw [List.length_append, hg, Nat.add_sub_cancel]
  rw [revTail, if_pos (by rw [List.length_append]; omega), hl, List.drop_left, List.take_left]

theorem revTail_short {α : Type} (step f : Nat) (p : List α) (h : p.length < step) : revTail step f p = p := by
  cases f with
  | zero => rfl
  | succ f => rw [revTail, if_neg (by omega)]

theorem loop_eq {α : Type} (step : Nat) (hs : 1 ≤ step) (f : Nat) (p q acc : List α) (hf : p.length < f) :
    reverseByLoop (p ++ q) step f q.length acc = some (acc ++ revTail step f p) := by
  induction f generalizing p q acc with
  | zero => omega
  | succ f ih =>
    rw [reverseByLoop, List.length_append, Nat.add_comm q.length]
    simp only [Nat.add_le_add_iff_right, Nat.add_sub_cancel]
    by_cases hc : step ≤ p.length
    · obtain ⟨p₁, g, rfl, rfl⟩ := exists_suffix p step hc
      rw [List.length_append] at hf
      rw [if_pos hc, revTail_append _ _ _ _ rfl, List.length_append,
        show p₁.length + g.length - 1 - (g.length - 1) = p₁.length by omega, groupAt_append]
      have := ih p₁ (g ++ q) (acc ++ g) (by omega)
      rw [List.length_append] at this
      simpa only [List.append_assoc] using this
    · rw [if_neg hc, revTail_short _ _ _ (by omega), List.take_left]

theorem reverseBy_eq {α : Type} (msgs : List α) (step : Int) :
    reverseBy msgs step = some (revTail (if step < 1 then 1 else step.toNat) (msgs.length + 1) msgs) := by
  have hs : 1 ≤ (if step < 1 then 1 else step.toNat) := by split <;> omega
  simpa [reverseBy] using loop_eq _ hs (msgs.length + 1) msgs [] [] (by omega)

/-- `ReverseBy(step)` is the one function that moves a full group from the end to the front and leaves a shorter rest -/
theorem revTail_eq {α : Type} (step : Nat) (hs : 1 ≤ step) (spec : List α → List α)
    (hgroup : ∀ p g, g.length = step → spec (p ++ g) = g ++ spec p) (hrest : ∀ p, p.length < step → spec p = p)
    (f : Nat) (p : List α) (h : p.length ≤ f) : revTail step f p = spec p := by
  induction f generalizing p with
  | zero => rw [revTail_short _ _ _ (by omega), hrest _ (by omega)]
  | succ f ih =>
    by_cases hc : step ≤ p.length
    · obtain ⟨p₁, g, rfl, hg⟩ := exists_suffix p step hc
      rw [List.length_append] at h
      rw [revTail_append _ _ _ _ hg, hgroup _ _ hg, ih _ (by omega)]
    · rw [revTail_short _ _ _ (by omega), hrest _ (by omega)]

theorem revTail_one {α : Type} (f : Nat) (p : List α) (h : p.length ≤ f) : revTail 1 f p = p.reverse :=
  revTail_eq 1 (Nat.le_refl 1) List.reverse
    (fun p g hg => by match g, hg with | [x], _ => rw [List.reverse_append]; rfl)
    (fun p hp => by match p, hp with | [], _ => rfl) f p h

theorem rep_append (t : List Msg) : ∀ q : List Msg, q.length % 2 = 0 →
    reverseEvenPairs (q ++ t) = reverseEvenPairs t ++ reverseEvenPairs q
  | [], _ => (List.append_nil _).symm
  | [_], h => absurd h Nat.one_ne_zero
  | a :: b :: q, h => by
    rw [List.cons_append, List.cons_append, reverseEvenPairs, reverseEvenPairs,
      rep_append t q (by rwa [List.length_cons, List.length_cons, Nat.add_assoc, Nat.add_mod_right] at h), List.append_assoc]

theorem reversePairs_even (l : List Msg) (h : l.length % 2 = 0) : reversePairs l = reverseEvenPairs l := if_pos h

theorem reversePairs_odd (x : Msg) (l : List Msg) (h : l.length % 2 = 0) :
    reversePairs (x :: l) = reverseEvenPairs l ++ [x] :=
  if_neg (by rw [List.length_cons]; omega)

theorem reversePairs_snoc2 (q : List Msg) (a b : Msg) : reversePairs (q ++ [a, b]) = [a, b] ++ reversePairs q := by
  have hlen (l : List Msg) (h : l.length % 2 = 0) : (l ++ [a, b]).length % 2 = 0 := by
    rw [List.length_append]; exact (Nat.add_mod_right _ 2).trans h
  by_cases he : q.length % 2 = 0
  · rw [reversePairs_even q he, reversePairs_even _ (hlen q he), rep_append _ q he]; rfl
  · match q, he with
    | x :: q', he =>
      have he' : q'.length % 2 = 0 := by rw [List.length_cons] at he; omega
      rw [List.cons_append, reversePairs_odd _ _ he', reversePairs_odd _ _ (hlen q' he'), rep_append _ q' he',
        List.append_assoc]; rfl

theorem revTail_two (f : Nat) (p : List Msg) (h : p.length ≤ f) : revTail 2 f p = reversePairs p :=
  revTail_eq 2 (by omega) reversePairs
    (fun p g hg => by match g, hg with | [a, b], _ => exact reversePairs_snoc2 p a b)
    (fun p hp => by match p, hp with | [], _ => rfl | [x], _ => rfl) f p h

/-! ## the LIMIT loop -/

/-- element `n` lies in an entry before entry `k` iff it lies before element `step * k` -/
theorem entry_lt (step : Nat) (hs : 0 < step) (n : Nat) (k : Int) (hk : 0 ≤ k) :
    ((n : Int) / (step : Int) < k) ↔ n < step * k.toNat := by
  rw [Int.ediv_lt_iff_lt_mul (by omega)]
  have : (k : Int) = k.toNat := by omega
  rw [this, ← Int.natCast_mul, Int.toNat_natCast, Int.ofNat_lt, Nat.mul_comm]

/-- the loop from element `n` on, when its two tests on the entry number are threshold tests on the element number: it
skips up to element `A` and stops at element `B` -/
theorem limitLoop_eq {α : Type} (step : Nat) (offset count : Int) (A B : Nat)
    (hA : ∀ n : Nat, (n : Int) / (step : Int) < offset ↔ n < A)
    (hB : 0 ≤ count → ∀ n : Nat, count ≤ (n : Int) / (step : Int) - offset ↔ B ≤ n)
    (l : List α) (n : Nat) (acc : List α) :
    limitLoop step offset count n l acc =
      acc ++ (if count < 0 then l.drop (A - n) else (l.drop (A - n)).take (B - max n A)) := by
  induction l generalizing n acc with
  | nil => simp [limitLoop]
  | cons e es ih =>
    rw [limitLoop]
    simp only [hA]
    by_cases h1 : n < A
    · -- before the offset: skipped
      rw [if_pos h1, ih, show A - n = A - (n + 1) + 1 by omega, List.drop_succ_cons, Nat.max_eq_right h1,
        Nat.max_eq_right (Nat.le_of_lt h1)]
    · have h1 : A ≤ n := Nat.le_of_not_lt h1
      have h1' : A ≤ n + 1 := Nat.le_succ_of_le h1
      rw [if_neg (Nat.not_lt.2 h1), Nat.sub_eq_zero_of_le h1, List.drop_zero, Nat.max_eq_left h1]
      by_cases hc : count < 0
      · rw [if_neg (fun h => Int.not_lt.2 h.1 hc), ih, if_pos hc, if_pos hc, Nat.sub_eq_zero_of_le h1', List.drop_zero,
          List.append_assoc, List.singleton_append]
      · have hB := hB (Int.not_lt.1 hc) n
        rw [if_neg hc]
        by_cases h2 : B ≤ n
        · -- behind the count: the loop ends
          rw [if_pos ⟨Int.not_lt.1 hc, hB.2 h2⟩, Nat.sub_eq_zero_of_le h2, List.take_zero, List.append_nil]
        · -- inside the count: kept
          rw [if_neg (fun h => h2 (hB.1 h.2)), ih, if_neg hc, Nat.sub_eq_zero_of_le h1', List.drop_zero,
            Nat.max_eq_left h1', show B - n = B - (n + 1) + 1 by omega, List.take_succ_cons, List.append_assoc,
            List.singleton_append]

theorem limitReversed_eq (step : Nat) (hs : 0 < step) (offset count : Int) (l : List Msg) :
    limitReversed step offset count l = limitEntries step offset count l := by
  unfold limitReversed limitEntries
  by_cases h0 : offset = 0 ∧ count < 0
  · obtain ⟨rfl, hc⟩ := h0
    simp [hc]
  · rw [if_neg h0]
    by_cases ho : 0 ≤ offset
    · rw [if_pos ho, if_neg (by omega), limitLoop_eq step offset count (offset.toNat * step) ((offset.toNat + count.toNat) * step)
        (fun n => by rw [entry_lt step hs n offset ho, Nat.mul_comm])
        (fun hc n => by
          have := entry_lt step hs n (offset + count) (by omega)
          rw [Int.toNat_add ho hc, Nat.mul_comm] at this
          omega),
        List.nil_append, Nat.sub_zero, Nat.max_eq_right (Nat.zero_le _), Nat.add_mul, Nat.add_sub_cancel_left]
    · rw [if_neg ho, if_pos (by omega)]

end GoRedis.Ex
