import GoRedisModel.Model.Discipline
import GoRedisModel.Proofs.Lin
import GoRedisModel.Proofs.RefStore
/-! # C16 — commands are atomic with respect to concurrent clients

* `Model/Lin`, `Proofs/Lin`: the definition of linearizability (some permutation of the history respects real time and is
  explained by the sequential specification), an executable complete search `check` proved **sound and complete**
  (so its verdict on a recorded history *is* the definition's), and the theorem that *every schedule* of a system in
  which each command takes effect in one atomic step between its invocation and its response – any number of
  clients, commands and interleavings – produces a linearizable history (`sys_linearizable`).
* The sequential specification `cmdStepC` is the framework model itself (`handleMessage`, the executors of
  INCR/APPEND/MSETNX/… as they are) run to completion on the reference store.
* The atomic step is the critical section of the dispatch mutex (repair 4755218); that the connection loop
  executes requests only under it is a fact regenerated from /repo's source on every run.
* The correspondence check records concurrent histories of the real connection loops and decides each with
  `linCheck`; an independent Go search with its own specification must agree. -/
namespace GoRedis
open Lin Generated

/-- the checker's `true` is a proof of linearizability … -/
theorem C16_checker_sound (h : List (Op Bytes Bytes)) (hc : linCheck h = true) :
    Linearizable cmdStepC ([] : Store) h := check_sound cmdStepC _ _ h hc

/-- … and its `false` a refutation (for histories whose responses do not precede their invocations) -/
theorem C16_checker_complete (h : List (Op Bytes Bytes)) (hwf : ∀ o ∈ h, o.inv ≤ o.res)
    (hl : Linearizable cmdStepC ([] : Store) h) : linCheck h = true :=
  check_complete cmdStepC _ h hwf hl _ (Nat.le_refl _)

theorem C16_checker_decides (h : List (Op Bytes Bytes)) (hwf : ∀ o ∈ h, o.inv ≤ o.res) :
    linCheck h = true ↔ Linearizable cmdStepC ([] : Store) h := check_iff cmdStepC _ h hwf

/-- **C16** for the serialized server: whatever the clients send and however invocations, critical sections and
responses interleave, the history is linearizable with respect to the framework's own sequential semantics -/
theorem C16_serialized_server_linearizable (s0 : Store) (sched : List (Act Bytes)) :
    Linearizable cmdStepC s0 ((Sys.init s0 : Sys Store Bytes Bytes).run cmdStepC sched).history :=
  sys_linearizable cmdStepC s0 sched

/-- the connection loop executes requests only inside the dispatch mutex (regenerated from the source) -/
theorem C16_dispatch_is_serialized :
    (factHolds "dispatchHoldsMutex" && factHolds "loopDispatchesUnderMutex" && factHolds "handleMessageOnlyFromDispatch") = true := by
  decide +kernel

/-! ## The clauses of the property, on the sequential specification -/

/-- of SETNX on an absent key exactly the first wins -/
theorem C16_setnx_one_winner (sc : ScoreTable) (k v w : Bytes) (s : Store) (h : s.get k = none) :
    (refHandle sc (.set k v { nx := true }) s).1.msg = newInteger 1 ∧
    (refHandle sc (.set k w { nx := true }) (refHandle sc (.set k v { nx := true }) s).2).1.msg = newInteger 0 ∧
    (refHandle sc (.set k w { nx := true }) (refHandle sc (.set k v { nx := true }) s).2).2.get k = some (.str v) := by
  simp [refHandle, h, Store.get_put_same, intRes, okRes]

/-- a lost update is not linearizable: two overlapping INCRs of a fresh key that both answer 1 -/
def incrReq : Bytes := b!"*2\r\n$4\r\nINCR\r\n$2\r\nk0\r\n"
def lostUpdate : List (Op Bytes Bytes) :=
  [{ client := 0, inv := 1, res := 4, cmd := incrReq, out := b!":1\r\n" },
   { client := 1, inv := 2, res := 3, cmd := incrReq, out := b!":1\r\n" }]
def noLostUpdate : List (Op Bytes Bytes) :=
  [{ client := 0, inv := 1, res := 4, cmd := incrReq, out := b!":2\r\n" },
   { client := 1, inv := 2, res := 3, cmd := incrReq, out := b!":1\r\n" }]

theorem C16_lost_update_rejected : linCheck lostUpdate = false := by decide +kernel
theorem C16_no_lost_update_accepted : linCheck noLostUpdate = true := by decide +kernel

theorem C16_lost_update_not_linearizable : ¬ Linearizable cmdStepC ([] : Store) lostUpdate := by
  intro h
  have := C16_checker_complete lostUpdate (by decide) h
  rw [C16_lost_update_rejected] at this
  exact Bool.false_ne_true this

/-- real time is respected: a read that completed before a write was invoked cannot see it -/
def getReq : Bytes := b!"*2\r\n$3\r\nGET\r\n$2\r\nk0\r\n"
def setReq : Bytes := b!"*3\r\n$3\r\nSET\r\n$2\r\nk0\r\n$1\r\n7\r\n"
theorem C16_stale_read_rejected :
    linCheck [{ client := 0, inv := 1, res := 2, cmd := getReq, out := b!"$1\r\n7\r\n" },
              { client := 1, inv := 3, res := 4, cmd := setReq, out := b!"+OK\r\n" }] = false := by decide +kernel

end GoRedis
