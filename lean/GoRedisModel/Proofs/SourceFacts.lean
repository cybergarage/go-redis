import GoRedisModel.Model.Conn
import GoRedisModel.Generated.Facts
/-! Facts regenerated from /repo's source (Generated/Facts.lean) compared with what the hand-written protocol model
assumes: re-checked on every run against the table `bin/extract` has just produced. -/
namespace GoRedis
open Generated

/-- the connection loop of the current source is the one `Model/Conn` was written from -/
theorem source_conn_loop_is_the_modelled_one :
    connLoopModelled.all (fun e => serverFingerprints.contains (e.1, e.2.1)) = true := by decide +kernel

end GoRedis
