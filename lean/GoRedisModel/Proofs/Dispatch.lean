import GoRedisModel.Model.Conn
namespace GoRedis

/-- the whole effect of a command that maps onto one handler operation: its span, exactly one handler call,
and the handler's result as the outcome; connection and server state untouched -/
def singleCall (ucmd : Bytes) (c : HCall) (conn : ConnSt) (srv : SrvSt) : Prog (Out × ConnSt × SrvSt) :=
  .emit (.start ucmd) (.call c (fun r => .emit .finish (.ret (outOf r, conn, srv))))

/-- the whole effect of a rejected request: its span, no handler call, an error outcome; state untouched -/
def rejected (ucmd : Bytes) (e : Err) (conn : ConnSt) (srv : SrvSt) : Prog (Out × ConnSt × SrvSt) :=
  .emit (.start ucmd) (.emit .finish (.ret (.error e, conn, srv)))

/-! ## The six system commands -/

theorem execSystem_eq_none {srv : SrvSt} {conn : ConnSt} {u : Bytes} {args : List Msg} :
    execSystem srv conn u args = none ↔ u ∉ systemNames := by
  refine ⟨fun h hu => ?_, fun hu => ?_⟩
  · simp only [systemNames, List.mem_cons, List.not_mem_nil, or_false] at hu
    rcases hu with rfl | rfl | rfl | rfl | rfl | rfl <;> cases h
  · simp [systemNames] at hu
    simp [execSystem, hu]

/-- an executor outcome that carries no nil pointer -/
def Out.strict : Out → Bool
  | .reply m => noAbsent m
  | .quit m => noAbsent m
  | .error _ => true

/-- the parts of the server state that a connection's own state evolution can depend on -/
def SrvSt.sameAuth (a b : SrvSt) : Prop :=
  a.authPw = b.authPw ∧ a.certAuth = b.certAuth ∧ a.hasHandler = b.hasHandler

@[simp] theorem SrvSt.sameAuth_refl (srv : SrvSt) : srv.sameAuth srv := ⟨rfl, rfl, rfl⟩

theorem SrvSt.sameAuth.trans {a b c : SrvSt} (h : a.sameAuth b) (h' : b.sameAuth c) : a.sameAuth c :=
  ⟨h.1.trans h'.1, h.2.1.trans h'.2.1, h.2.2.trans h'.2.2⟩

/-- what a system command makes of the connection state: only AUTH and SELECT touch it, and the server state enters only
through the verdict `auth` of its authenticators -/
def sysConn (auth : ConnSt → Bool) (conn : ConnSt) (u : Bytes) (args : List Msg) : ConnSt :=
  if u = b!"AUTH" then
    match authCreds args with
    | .error _ => conn
    | .ok (user, pass) =>
      let c := { conn with user := user, pass := pass, hasPass := true }
      if auth c then { c with authorized := true } else c
  else if u = b!"SELECT" then
    match nextIntegerRaw args with
    | .error _ => conn
    | .ok (n, _) => { conn with db := n }
  else conn

theorem configGetReply_noAbsent (cfg : List (Bytes × Bytes)) (ks : List Bytes) : noAbsent (configGetReply cfg ks) = true := by
  simp only [configGetReply, noAbsent]
  induction ks with
  | nil => rfl
  | cons x xs ih => simpa [List.flatMap_cons, noAbsents, newBulk, noAbsent] using ih

/-- **What a system command can do**: its outcome carries no nil pointer, the connection state it leaves is `sysConn`, and
of the server state it changes at most the configuration table. -/
theorem execSystem_some {srv : SrvSt} {conn : ConnSt} {u : Bytes} {args : List Msg} {x : Out × ConnSt × SrvSt}
    (h : execSystem srv conn u args = some x) :
    x.1.strict = true ∧ x.2.1 = sysConn (authenticate srv) conn u args ∧ x.2.2.sameAuth srv := by
  have hu : u ∈ systemNames := Decidable.by_contra fun hn => by simp [execSystem_eq_none.mpr hn] at h
  simp only [systemNames, List.mem_cons, List.not_mem_nil, or_false] at hu
  -- with the name known the if-chains of `execSystem` and `sysConn` reduce, and `x` is the body of that one command:
  -- a tree of matches on the arguments, at each leaf of which all five equations hold by computation
  rcases hu with rfl | rfl | rfl | rfl | rfl | rfl <;>
    simp (decide := true) only [execSystem, sysConn, ↓reduceIte, Option.some.injEq] at h ⊢ <;> subst h
  · -- AUTH
    cases authCreds args with
    | error e => exact ⟨rfl, rfl, rfl, rfl, rfl⟩
    | ok up => dsimp only; split <;> exact ⟨rfl, rfl, rfl, rfl, rfl⟩
  · -- PING: no argument, a nil one, an undecodable one, an empty or a non-empty string
    split
    · exact ⟨rfl, rfl, rfl, rfl, rfl⟩
    · exact ⟨rfl, rfl, rfl, rfl, rfl⟩
    · split
      · exact ⟨rfl, rfl, rfl, rfl, rfl⟩
      · split <;> exact ⟨rfl, rfl, rfl, rfl, rfl⟩
  · -- ECHO
    split <;> exact ⟨rfl, rfl, rfl, rfl, rfl⟩
  · -- SELECT
    cases nextIntegerRaw args <;> exact ⟨rfl, rfl, rfl, rfl, rfl⟩
  · -- QUIT
    exact ⟨rfl, rfl, rfl, rfl, rfl⟩
  · -- CONFIG: an undecodable subcommand; SET; GET, the one reply that is not a literal; any other subcommand
    split
    · exact ⟨rfl, rfl, rfl, rfl, rfl⟩
    · split
      · split <;> exact ⟨rfl, rfl, rfl, rfl, rfl⟩
      · split
        · split
          · exact ⟨rfl, rfl, rfl, rfl, rfl⟩
          · exact ⟨configGetReply_noAbsent _ _, rfl, rfl, rfl, rfl⟩
        · exact ⟨rfl, rfl, rfl, rfl, rfl⟩

/-! ## `executeCommand` behind the system commands -/

/-- the executor of a command that is not a system command: the user table, the commands composed from it, and the
executors the application registered (all of them run behind `gated`) -/
def cmdExec (pf : FloatOracle) (srv : SrvSt) (conn : ConnSt) (u : Bytes) : Option NExec :=
  match (userTable pf).lookup u with
  | some ex => some fun args => (ex args).lift
  | none =>
    match nested1 pf srv conn u with
    | some ex => some ex
    | none =>
      if u = b!"HLEN" then some (execHLen pf srv conn)
      else if srv.appGet.contains u then some fun args => (shapeS .get args).lift else none

theorem cmdExec_app (pf : FloatOracle) (srv : SrvSt) (conn : ConnSt) (u : Bytes)
    (h2 : (userTable pf).lookup u = none) (h3 : u ∉ nestedNames) :
    cmdExec pf srv conn u = if u ∈ srv.appGet then some (fun args => (shapeS .get args).lift) else none := by
  simp [nestedNames] at h3
  simp [cmdExec, h2, nested1, h3]

theorem nested1_some {pf : FloatOracle} {srv : SrvSt} {conn : ConnSt} {u : Bytes} {ex : NExec}
    (h : nested1 pf srv conn u = some ex) :
    ex ∈ [execStrLen pf srv conn, fun args => nestedCall pf srv conn b!"GETRANGE" args .ret, execHExists pf srv conn,
      execHKeys pf srv conn, execHStrLen pf srv conn, execHVals pf srv conn] := by
  have hu : u ∈ [b!"STRLEN", b!"SUBSTR", b!"HEXISTS", b!"HKEYS", b!"HSTRLEN", b!"HVALS"] :=
    Decidable.by_contra fun hn => by
      simp only [List.mem_cons, List.not_mem_nil, or_false, not_or] at hn
      simp [nested1, hn] at h
  simp only [List.mem_cons, List.not_mem_nil, or_false] at hu
  -- as for `execSystem_some`: with the name known the if-chain reduces, here to the executor itself
  rcases hu with rfl | rfl | rfl | rfl | rfl | rfl <;> cases h <;> simp

/-- `executeCommand` in its four cases: no handler installed, a system command, a command with an executor, an unknown
command -/
theorem executeCommand_eq (pf : FloatOracle) (srv : SrvSt) (conn : ConnSt) (cmd : Bytes) (args : List Msg) :
    executeCommand pf srv conn cmd args =
      if !srv.hasHandler then .ret (.reply (notSupported cmd), conn, srv) else
      match execSystem srv conn (upper cmd) args with
      | some (o, conn', srv') =>
        .emit (.start (upper cmd)) <|
          if !conn.authorized && upper cmd != b!"AUTH" then .emit .finish (.ret (.error errNotAuthorized, conn, srv))
          else .emit .finish (.ret (o, conn', srv'))
      | none =>
        match cmdExec pf srv conn (upper cmd) with
        | some ex => (gated conn (upper cmd) (ex args)).bind fun o => .ret (o, conn, srv)
        | none => .ret (.reply (notSupported cmd), conn, srv) := by
  unfold executeCommand cmdExec execUser
  simp only
  split
  · rfl
  · cases execSystem srv conn (upper cmd) args with
    | some x => rfl
    | none =>
      cases (userTable pf).lookup (upper cmd) with
      | some ex => rfl
      | none =>
        cases nested1 pf srv conn (upper cmd) with
        | some ex => rfl
        | none =>
          simp only
          split
          · rfl
          · split <;> rfl

theorem dispatch_system (pf : FloatOracle) (srv : SrvSt) (conn : ConnSt) (cmd : Bytes) (args : List Msg)
    {x : Out × ConnSt × SrvSt} (hh : srv.hasHandler = true) (hg : conn.authorized = true ∨ upper cmd = b!"AUTH")
    (hx : execSystem srv conn (upper cmd) args = some x) :
    executeCommand pf srv conn cmd args = .emit (.start (upper cmd)) (.emit .finish (.ret x)) := by
  rw [executeCommand_eq, hx]
  obtain hg | hg := hg <;> simp [hh, hg]

/-- the user table holds no system command's name -/
theorem userTable_system (pf : FloatOracle) {u : Bytes} (h : u ∈ systemNames) : (userTable pf).lookup u = none := by
  simp only [systemNames, List.mem_cons, List.not_mem_nil, or_false] at h
  rcases h with rfl | rfl | rfl | rfl | rfl | rfl <;> rfl

theorem dispatch_user (pf : FloatOracle) (srv : SrvSt) (conn : ConnSt) (cmd : Bytes) (args : List Msg) (ex : UExec)
    {name : Bytes} (hh : srv.hasHandler = true) (ha : conn.authorized = true) (hu : upper cmd = name)
    (hl : (userTable pf).lookup name = some ex) :
    executeCommand pf srv conn cmd args =
      (Prog.emit (.start name) ((ex args).lift.andFinish)).bind (fun o => .ret (o, conn, srv)) := by
  subst hu
  have hs : upper cmd ∉ systemNames := fun h => nomatch (userTable_system pf h).symm.trans hl
  simp [executeCommand_eq, hh, execSystem_eq_none.mpr hs, cmdExec, hl, gated, ha]

theorem dispatch_callRet (pf : FloatOracle) (srv : SrvSt) (conn : ConnSt) (cmd : Bytes) (args : List Msg) (ex : UExec) (c : HCall)
    {name : Bytes} (hh : srv.hasHandler = true) (ha : conn.authorized = true) (hu : upper cmd = name)
    (hl : (userTable pf).lookup name = some ex) (hx : ex args = callRet c) :
    executeCommand pf srv conn cmd args = singleCall name c conn srv := by
  rw [dispatch_user pf srv conn cmd args ex hh ha hu hl, hx]; rfl

theorem dispatch_failE (pf : FloatOracle) (srv : SrvSt) (conn : ConnSt) (cmd : Bytes) (args : List Msg) (ex : UExec) (e : Err)
    {name : Bytes} (hh : srv.hasHandler = true) (ha : conn.authorized = true) (hu : upper cmd = name)
    (hl : (userTable pf).lookup name = some ex) (hx : ex args = failE e) :
    executeCommand pf srv conn cmd args = rejected name e conn srv := by
  rw [dispatch_user pf srv conn cmd args ex hh ha hu hl, hx]; rfl

end GoRedis
