import GoRedisModel.Proofs.Request
/-! The password gate, for one request. -/
namespace GoRedis

/-- the request is AUTH (any letter case) whose decoded credentials are exactly: no user name, password `pw` -/
def IsExactAuth (pw : Bytes) (cmd : Bytes) (args : List Msg) : Prop :=
  upper cmd = b!"AUTH" ∧ authCreds args = .ok ([], pw)

/-- the request is an AUTH carrying exactly the configured password (and no or an empty user name) -/
def ExactAuthReq (pw : Bytes) (m : Msg) : Prop := ∃ cmd args, dispatched m = some (cmd, args) ∧ IsExactAuth pw cmd args

/-- what one request may do to the state that matters for the gate -/
structure GateStep (pw : Bytes) (srv : SrvSt) (conn : ConnSt) (exact : Prop) (x : Out × ConnSt × SrvSt) : Prop where
  authPw : x.2.2.authPw = srv.authPw
  certAuth : x.2.2.certAuth = srv.certAuth
  handler : x.2.2.hasHandler = srv.hasHandler
  /-- authorization is only ever *acquired* through an exact AUTH, and never lost -/
  gain : x.2.1.authorized = true → conn.authorized = true ∨ exact
  keep : conn.authorized = true → x.2.1.authorized = true

theorem authenticate_exact (srv : SrvSt) (pw user pass : Bytes) (conn : ConnSt) (hpw : srv.authPw = some pw)
    (h : authenticate srv { conn with user := user, pass := pass, hasPass := true } = true) :
    user = [] ∧ pass = pw := by
  simp [authenticate, hpw] at h
  exact ⟨h.1.1, h.1.2⟩

theorem sysConn_authorized (auth : ConnSt → Bool) (conn : ConnSt) (u : Bytes) (args : List Msg) :
    (sysConn auth conn u args).authorized =
      (conn.authorized || match authCreds args with
        | .ok (user, pass) => u = b!"AUTH" && auth { conn with user := user, pass := pass, hasPass := true }
        | .error _ => false) := by
  unfold sysConn
  split
  · cases authCreds args with
    | error e => simp
    | ok up => dsimp only; split <;> simp [*]
  · split
    · cases nextIntegerRaw args <;> cases authCreds args <;> simp [*]
    · cases authCreds args <;> simp [*]

theorem connStep_gain (srv : SrvSt) (pw : Bytes) (hpw : srv.authPw = some pw) (conn : ConnSt) (m : Msg)
    (h : (connStep srv conn m).authorized = true) : conn.authorized = true ∨ ExactAuthReq pw m := by
  unfold connStep at h
  split at h
  · exact .inl h
  · rename_i cmd args hd
    rw [connAfterCmd_eq] at h
    split at h
    · exact .inl h
    · rw [sysConn_authorized, Bool.or_eq_true] at h
      refine h.imp_right fun h => ⟨cmd, args, hd, ?_⟩
      split at h
      · rename_i user pass hc
        rw [Bool.and_eq_true, decide_eq_true_eq] at h
        obtain ⟨rfl, rfl⟩ := authenticate_exact srv pw user pass conn hpw h.2
        exact ⟨h.1, hc⟩
      · cases h

theorem connStep_keep (srv : SrvSt) (conn : ConnSt) (m : Msg) (h : conn.authorized = true) :
    (connStep srv conn m).authorized = true := by
  unfold connStep
  split
  · exact h
  · rw [connAfterCmd_eq]; split
    · exact h
    · simp [sysConn_authorized, h]

theorem foldl_connStep_gain (srv : SrvSt) (pw : Bytes) (hpw : srv.authPw = some pw) (ms : List Msg) (c : ConnSt)
    (h : (ms.foldl (connStep srv) c).authorized = true) : c.authorized = true ∨ ∃ m ∈ ms, ExactAuthReq pw m := by
  induction ms generalizing c with
  | nil => exact .inl h
  | cons m ms ih =>
    obtain h | ⟨m', hm', hx⟩ := ih _ h
    · exact (connStep_gain srv pw hpw c m h).imp_right fun hx => ⟨m, List.mem_cons_self, hx⟩
    · exact .inr ⟨m', List.mem_cons_of_mem _ hm', hx⟩

/-- **The gate, for one request**: if the loop goes on after request `m`, the server's authentication settings are what
they were, and the connection is authorized afterwards only if it was before or `m` is an AUTH with exactly the
configured password. -/
theorem reqStep_gateStep (pf : FloatOracle) (srv : SrvSt) (conn : ConnSt) (pw : Bytes) (hpw : srv.authPw = some pw)
    (m : Msg) (script : List HRes) (c' : ConnSt) (s' : SrvSt)
    (h : (reqStep pf srv conn m script).next = some (c', s')) (o : Out) :
    GateStep pw srv conn (ExactAuthReq pw m) (o, c', s') := by
  obtain ⟨rfl, h1, h2, h3⟩ := reqStep_connStep pf srv conn m script c' s' h
  exact ⟨h1, h2, h3, connStep_gain srv pw hpw conn m, connStep_keep srv conn m⟩

theorem executeCommand_unauthorized (pf : FloatOracle) (srv : SrvSt) (conn : ConnSt) (cmd : Bytes) (args : List Msg)
    (hu : conn.authorized = false) (view : ConnSt) (s : List HRes) :
    ∀ e ∈ ((executeCommand pf srv conn cmd args).run view s).1, e.isCall = false := by
  rw [executeCommand_eq]
  split
  · simp [Prog.run]
  · cases hs : execSystem srv conn (upper cmd) args with
    | some x => dsimp only; split <;> simp [Prog.run, Prog.SpanOp.ev, Ev.isCall]
    | none =>
      dsimp only
      split
      · -- not a system command, so not AUTH: `gated` refuses it before the executor runs
        have hne : upper cmd ≠ b!"AUTH" := fun e => execSystem_eq_none.mp hs (by rw [e]; decide)
        simp [gated, hu, hne, Prog.bind, Prog.run, Prog.SpanOp.ev, Ev.isCall]
      · simp [Prog.run]

theorem reqStep_calls_need_authorization (pf : FloatOracle) (srv : SrvSt) (conn : ConnSt) (m : Msg) (script : List HRes)
    (e : Ev) (he : e ∈ (reqStep pf srv conn m script).evs) (hc : e.isCall = true) : conn.authorized = true := by
  have he := reqStep_call_mem pf srv conn m script e he hc
  cases handleMessage_cases pf srv conn m with
  | command cmd args _ h =>
    rw [h] at he
    cases hu : conn.authorized with
    | true => rfl
    | false => rw [executeCommand_unauthorized pf srv conn cmd args hu conn script e he] at hc; cases hc
  | nilArray _ _ h | noCommand _ _ _ h => rw [h] at he; cases he

end GoRedis
