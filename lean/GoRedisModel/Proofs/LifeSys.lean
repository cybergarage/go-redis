import GoRedisModel.Model.LifeSys
namespace GoRedis

/-- the invariant of the lifecycle transition system -/
structure LInv (s : LS) : Prop where
  /-- every open listener belongs to the generation the server's fields hold -/
  openCur : ∀ l ∈ s.openL, s.field = some l.1
  /-- the fields hold the current generation -/
  fieldCur : ∀ g, s.field = some g → g = s.gen
  /-- every accept loop belongs to the current generation -/
  loopsCur : ∀ l ∈ s.loops, l.gen = s.gen
  /-- while serving, every enabled port has its open listener and a live accept loop -/
  serving : s.phase = .idle → ∀ g, s.field = some g → ∀ k ∈ s.kinds,
      (g, k) ∈ s.openL ∧ ∃ l ∈ s.loops, l.gen = g ∧ l.tls = k ∧ l.exited = false
  /-- no accept loop outlives Stop's second phase -/
  noLoops : (s.phase = .waitedLoops ∨ s.phase = .closedConns ∨ (s.phase = .idle ∧ s.field = none)) → s.loops = []
  /-- during and after Stop nothing listens -/
  noListen : s.field = none → s.openL = []
  /-- Stop clears the fields for its whole duration -/
  stopField : s.phase ≠ .idle → s.field = none
  /-- the registry contains exactly connections that are being served -/
  registry : ∀ c ∈ s.conns, c.registered = true → c.alive = true ∧ c.sockOpen = true
  /-- a connection that left the registry has its socket closed -/
  unreg : ∀ c ∈ s.conns, c.registered = false → c.sockOpen = false
  /-- after Stop's third phase no connection is registered or has an open socket -/
  closedAll : s.phase = .closedConns → ∀ c ∈ s.conns, c.registered = false ∧ c.sockOpen = false
  /-- a stopped server holds no connection at all -/
  stopped : s.phase = .idle → s.field = none → s.conns = []

theorem LInv.init (plain tls : Bool) : LInv { plain := plain, tls := tls } := by
  constructor <;> simp

/-- A connection is either being served or released; `registry` and `unreg` together say the first or the second of
every connection, `closedAll` the second. -/
def ConnG.Ok (c : ConnG) : Prop :=
  (c.registered = true → c.alive = true ∧ c.sockOpen = true) ∧ (c.registered = false → c.sockOpen = false)

def ConnG.Released (c : ConnG) : Prop := c.registered = false ∧ c.sockOpen = false

theorem ConnG.Released.ok {c : ConnG} (h : c.Released) : c.Ok :=
  ⟨fun hr => absurd (h.1.symm.trans hr) Bool.false_ne_true, fun _ => h.2⟩

theorem LInv.conns_ok {s : LS} (h : LInv s) (c : ConnG) (hc : c ∈ s.conns) : c.Ok :=
  ⟨h.registry c hc, h.unreg c hc⟩

/-- an action that touches only the connections has only the four clauses about them to re-establish -/
theorem LInv.with_conns {s : LS} (h : LInv s) (cs : List ConnG) (n : Nat) (hc : ∀ c ∈ cs, c.Ok)
    (hcl : s.phase = .closedConns → ∀ c ∈ cs, c.Released) (hst : s.phase = .idle → s.field = none → cs = []) :
    LInv { s with conns := cs, nextId := n } :=
  { h with registry := fun c hm => (hc c hm).1, unreg := fun c hm => (hc c hm).2, closedAll := hcl, stopped := hst }

/-- The invariant of a state whose fields are cleared (from Stop's first phase until the next Start): nothing listens,
and what remains are the loops and connections that Stop has not yet waited for. -/
theorem LInv.of_cleared {s : LS} (hf : s.field = none) (ho : s.openL = [])
    (hl : ∀ l ∈ s.loops, l.gen = s.gen) (hnl : s.phase ≠ .closedListeners → s.loops = [])
    (hc : ∀ c ∈ s.conns, c.Ok) (hcl : s.phase = .closedConns → ∀ c ∈ s.conns, c.Released)
    (hst : s.phase = .idle → s.conns = []) : LInv s where
  openCur := by rw [ho]; nofun
  fieldCur := by rw [hf]; nofun
  loopsCur := hl
  serving := by rw [hf]; nofun
  noLoops := fun hx => hnl (by rcases hx with hx | hx | ⟨hx, _⟩ <;> rw [hx] <;> nofun)
  noListen := fun _ => ho
  stopField := fun _ => hf
  registry := fun c hm => (hc c hm).1
  unreg := fun c hm => (hc c hm).2
  closedAll := hcl
  stopped := fun hp _ => hst hp

theorem LInv.step (s : LS) (h : LInv s) (a : LAct) : LInv (s.step a) := by
  cases a with
  | start =>
    simp only [LS.step]
    split
    · exact h
    · next hc =>
      -- Start finds a stopped server: no listener, no loop, no connection
      obtain ⟨hf, hp⟩ : s.field = none ∧ s.phase = .idle := by simpa using hc
      rw [h.noListen hf, h.noLoops (Or.inr (Or.inr ⟨hp, hf⟩)), List.nil_append, List.nil_append]
      exact { h with
        openCur := List.forall_mem_map.mpr fun _ _ => rfl
        fieldCur := fun _ hg => (Option.some.inj hg).symm
        loopsCur := List.forall_mem_map.mpr fun _ _ => rfl
        serving := fun _ g hg k hk => by
          cases hg
          exact ⟨List.mem_map.mpr ⟨k, hk, rfl⟩, _, List.mem_map.mpr ⟨k, hk, rfl⟩, rfl, rfl, rfl⟩
        noLoops := by
          rw [hp]
          rintro (hx | hx | ⟨_, hx⟩) <;> cases hx
        noListen := nofun
        stopField := fun hx => absurd hp hx
        closedAll := by rw [hp]; nofun
        stopped := nofun }
  | accept g k =>
    simp only [LS.step]
    split
    · next hc =>
      -- the listener is open, so the server is serving: neither stopping nor stopped
      have hfield := h.openCur _ (List.contains_iff_mem.mp (Bool.and_eq_true_iff.mp hc).1)
      refine h.with_conns _ _ (fun c hm => ?_) (fun hp => ?_) fun _ hf => ?_
      · rcases List.mem_append.mp hm with hm | hm
        · exact h.conns_ok c hm
        · cases List.mem_singleton.mp hm
          exact ⟨fun _ => ⟨rfl, rfl⟩, nofun⟩
      · cases (h.stopField (by rw [hp]; nofun)).symm.trans hfield
      · cases hf.symm.trans hfield
    · exact h
  | clientClose id => exact h
  | connEnd id =>
    refine h.with_conns _ _ (List.forall_mem_map.mpr fun c hc => ?_) (fun hp => List.forall_mem_map.mpr fun c hc => ?_)
      fun hp hf => by rw [h.stopped hp hf]; rfl
    · split
      · exact ConnG.Released.ok ⟨rfl, rfl⟩
      · exact h.conns_ok c hc
    · split
      · exact ⟨rfl, rfl⟩
      · exact h.closedAll hp c hc
  | stopCloseListeners =>
    simp only [LS.step]
    split
    · exact h
    · -- either way the fields end up cleared; a listener that was open belonged to the generation in the fields
      split
      · next hf => exact .of_cleared hf (h.noListen hf) h.loopsCur (fun hx => absurd rfl hx) h.conns_ok nofun nofun
      · next g hf =>
        refine .of_cleared rfl (List.filter_eq_nil_iff.mpr fun l hl => ?_) h.loopsCur (fun hx => absurd rfl hx) h.conns_ok nofun nofun
        cases (h.openCur l hl).symm.trans hf
        simp
  | loopExit g k =>
    simp only [LS.step]
    split
    · exact h
    · next hnot =>
      refine { h with loopsCur := List.forall_mem_map.mpr fun l hl => ?_, serving := fun hp g' hg' k' hk' => ?_,
                      noLoops := fun hx => by rw [h.noLoops hx]; rfl }
      · split <;> exact h.loopsCur l hl
      · obtain ⟨hopen, l, hl, h1, h2, h3⟩ := h.serving hp g' hg' k' hk'
        refine ⟨hopen, _, List.mem_map.mpr ⟨l, hl, rfl⟩, ?_⟩
        -- the loop of an open listener is not the one that exits
        rw [if_neg]
        · exact ⟨h1, h2, h3⟩
        · intro hc
          simp only [Bool.and_eq_true, beq_iff_eq] at hc
          rw [← hc.1, ← hc.2, h1, h2] at hnot
          exact hnot (List.contains_iff_mem.mpr hopen)
  | stopWaitLoops =>
    simp only [LS.step]
    split
    · next hc =>
      simp only [Bool.and_eq_true, beq_iff_eq] at hc
      have hf := h.stopField (by rw [hc.1]; nofun)
      exact .of_cleared hf (h.noListen hf) nofun (fun _ => rfl) h.conns_ok nofun nofun
    · exact h
  | stopCloseConns =>
    simp only [LS.step]
    split
    · next hc =>
      have hp : s.phase = .waitedLoops := by simpa using hc
      have hf := h.stopField (by rw [hp]; nofun)
      -- every connection is released now: it was, or it was registered and Stop has just closed it
      have hrel : ∀ c ∈ s.conns.map fun c => if c.registered then { c with registered := false, sockOpen := false } else c,
          c.Released := List.forall_mem_map.mpr fun c hc => by
        split
        · exact ⟨rfl, rfl⟩
        · next hr => exact ⟨Bool.eq_false_iff.mpr hr, h.unreg c hc (Bool.eq_false_iff.mpr hr)⟩
      exact .of_cleared hf (h.noListen hf) h.loopsCur (fun _ => h.noLoops (Or.inl hp)) (fun c hc => (hrel c hc).ok)
        (fun _ => hrel) nofun
    · exact h
  | stopWaitConns =>
    simp only [LS.step]
    split
    · next hc =>
      simp only [Bool.and_eq_true, beq_iff_eq] at hc
      have hf := h.stopField (by rw [hc.1]; nofun)
      exact .of_cleared hf (h.noListen hf) h.loopsCur (fun _ => h.noLoops (Or.inr (Or.inl hc.1))) nofun nofun fun _ => rfl
    · exact h

theorem LInv.run (s : LS) (h : LInv s) (sched : List LAct) : LInv (s.run sched) :=
  List.foldlRecOn sched _ h fun s hs a _ => hs.step s a

theorem accept_enabled (s : LS) (g : Nat) (k : Bool) (hc : s.openL.contains (g, k) = true)
    (ha : s.loops.any (fun l => l.gen == g && l.tls == k && !l.exited) = true) :
    (s.step (.accept g k)).conns.length = s.conns.length + 1 := by
  simp only [LS.step, hc, ha, Bool.and_self, if_true, List.length_append, List.length_cons, List.length_nil]

end GoRedis
