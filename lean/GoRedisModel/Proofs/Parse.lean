import GoRedisModel.Proofs.Header
namespace GoRedis

theorem sanitize_id (p : Bytes) (h1 : CR ∉ p) (h2 : LF ∉ p) : sanitize p = p := by
  rw [sanitize, List.map_congr_left (g := id), List.map_id]
  intro b hb
  have : b ≠ CR ∧ b ≠ LF := ⟨fun e => h1 (e ▸ hb), fun e => h2 (e ▸ hb)⟩
  simp [sanByte, this]

theorem sanByte_not_crlf (b : UInt8) : sanByte b ≠ CR ∧ sanByte b ≠ LF := by
  unfold sanByte
  split
  · decide
  · rename_i h; simpa using h

theorem sanitize_no_cr (p : Bytes) : CR ∉ sanitize p := by
  simpa [sanitize] using fun b _ => (sanByte_not_crlf b).1

theorem sanitize_no_lf (p : Bytes) : LF ∉ sanitize p := by
  simpa [sanitize] using fun b _ => (sanByte_not_crlf b).2

theorem enc_line_append (ty : LineTy) (p tail : Bytes) :
    enc (.line ty p) ++ tail = ty.byte :: (sanitize p ++ CR :: LF :: tail) := by simp [enc, CRLF]
theorem enc_null_append (tail : Bytes) :
    enc (.bulk none) ++ tail = bulkByte :: ([45, 49] ++ CR :: LF :: tail) := by simp [enc, CRLF]
theorem enc_bulk_append (p tail : Bytes) :
    enc (.bulk (some p)) ++ tail = bulkByte :: (dec p.length ++ CR :: LF :: (p ++ CR :: LF :: tail)) := by
  simp [enc, CRLF]
theorem enc_arr_append (es : List Msg) (tail : Bytes) :
    enc (.arr es) ++ tail = arrayByte :: (dec es.length ++ CR :: LF :: (encs es ++ tail)) := by simp [enc, CRLF]

theorem bulkBody_append (p rest : Bytes) : bulkBody p.length (p ++ CR :: LF :: rest) = .ok (.bulk (some p)) rest := by
  simp [bulkBody, CRLF]

theorem parseElems_ok (p : Bytes → PRes) (ms : List Msg) (rest : Bytes) (acc : List Msg)
    (h : ∀ m ∈ ms, ∀ r, p (enc m ++ r) = .ok m r) :
    parseElems p ms.length (encs ms ++ rest) acc = .ok (.arr (acc.reverse ++ ms)) rest := by
  induction ms generalizing acc with
  | nil => simp [parseElems, encs]
  | cons m ms ih =>
    simp only [List.length_cons, parseElems, encs, List.append_assoc]
    rw [h m List.mem_cons_self]
    simp only
    rw [ih _ fun m' hm' => h m' (List.mem_cons_of_mem _ hm')]
    simp

theorem wfs_iff (ms : List Msg) : wfs ms ↔ ∀ m ∈ ms, wf m := by
  induction ms with
  | nil => simp [wfs]
  | cons x xs ih => simp [wfs, ih]

theorem depths_le_iff (ms : List Msg) (d : Nat) : depths ms ≤ d ↔ ∀ m ∈ ms, depth m ≤ d := by
  induction ms with
  | nil => simp [depths]
  | cons x xs ih => simp [depths, Nat.max_le, ih]

mutual
/-- a level of nesting costs at least a byte: fuel above the length of an encoding is fuel above its depth -/
theorem depth_le_length (m : Msg) : depth m ≤ (enc m).length := by
  match m with
  | .arr es => have := depths_le_length es; simp [depth, enc]; omega
  | .line _ _ | .bulk _ | .absent | .arrNil => exact Nat.zero_le _
theorem depths_le_length (ms : List Msg) : depths ms ≤ (encs ms).length := by
  match ms with
  | [] => exact Nat.zero_le _
  | m :: ms =>
    have h1 := depth_le_length m
    have h2 := depths_le_length ms
    simp [depths, encs]; omega
end

theorem depths_le_encs (ms : List Msg) (h : noAbsents ms = true) : depths ms ≤ (encs ms).length :=
  depths_le_length ms

theorem parse_enc (m : Msg) (hw : wf m) (f : Nat) (hf : depth m < f) (rest : Bytes) :
    parse f (enc m ++ rest) = .ok m rest := by
  induction f generalizing m rest with
  | zero => omega
  | succ f ih =>
    match m with
    | .line t p =>
      rw [enc_line_append, sanitize_id p hw.1 hw.2, parse_cons, takeLine_append _ _ hw.1, hdr_line]
    | .bulk none => rw [enc_null_append, parse_cons, takeLine_append _ _ (by decide), hdr_null]
    | .bulk (some p) =>
      rw [enc_bulk_append, parse_cons, takeLine_append _ _ (dec_no_cr _), hdr_bulk_dec _ hw]
      exact bulkBody_append p rest
    | .arr es =>
      rw [enc_arr_append, parse_cons, takeLine_append _ _ (dec_no_cr _), hdr_arr_dec _ hw.1]
      simp only [depth] at hf
      exact parseElems_ok (parse f) es rest [] fun m hm r =>
        ih m ((wfs_iff es).mp hw.2 m hm) (by have := (depths_le_iff es _).mp (Nat.le_refl _) m hm; omega) r

theorem parse_encs (ms : List Msg) (hw : wfs ms) (f : Nat) (hf : depths ms < f ∨ ms = []) :
    ∀ m ∈ ms, ∀ r, parse f (enc m ++ r) = .ok m r := by
  intro m hm r
  rcases hf with hf | rfl
  · exact parse_enc m ((wfs_iff ms).mp hw m hm) f (by have := (depths_le_iff ms _).mp (Nat.le_refl _) m hm; omega) r
  · contradiction

end GoRedis
