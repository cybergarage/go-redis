import GoRedisModel.Proofs.Translated
import GoRedisModel.Proofs.ExStore
import GoRedisModel.Generated.Facts
/-! # C18 — the bundled example store returns what was stored

The example store is tied, reply for reply, to the reference store `refHandle` (Model/RefStore) by the
correspondence check (the real example server through the hook vs the model, on exhaustively enumerated short
programs per data type and on random long ones).  The theorems below are the clauses of the property, proved
of the reference store for every state and all arguments. -/
namespace GoRedis

variable (sc : ScoreTable)

-- the clauses about the reference store are proved by running it (`refHandle`) and reading the store back by the
-- finite-map laws
attribute [local simp] refHandle Store.get_put_same Store.get_del_same okRes intRes

/-! ## Strings: values come back byte for byte -/

theorem C18_get_after_set (k v : Bytes) (s : Store) :
    (refHandle sc (.get k) (refHandle sc (.set k v {}) s).2).1.msg = newBulk v := by
  simp

theorem C18_set_leaves_other_keys (k k2 v : Bytes) (s : Store) (h : k2 ≠ k) :
    (refHandle sc (.set k v {}) s).2.get k2 = s.get k2 := by
  simp [Store.get_put_other _ _ _ _ h]

/-! ## Keys: DEL / EXISTS / RENAME / TYPE reflect exactly the keys that were written -/

theorem C18_exists_after_set (k v : Bytes) (s : Store) :
    (refHandle sc (.exists_ [k]) (refHandle sc (.set k v {}) s).2).1.msg = newInteger 1 := by
  simp

theorem C18_del_removes (k : Bytes) (s : Store) : (refHandle sc (.del [k]) s).2.get k = none := by
  cases h : s.get k <;> simp [h]

theorem C18_del_counts_existing (k : Bytes) (s : Store) :
    (refHandle sc (.del [k]) s).1.msg = newInteger (if (s.get k).isSome then 1 else 0) := by
  cases h : s.get k <;> simp [h]

/-- renaming a key onto itself keeps it (it was deleted before the repair) -/
theorem C18_rename_onto_itself (k : Bytes) (s : Store) (v : Val) (h : s.get k = some v) :
    refHandle sc (.rename k k false) s = (okRes okMsg, s) := by
  simp [h]

theorem C18_rename_moves (k nk : Bytes) (s : Store) (v : Val) (h : s.get k = some v) (hne : k ≠ nk) :
    (refHandle sc (.rename k nk false) s).2.get nk = some v ∧ (refHandle sc (.rename k nk false) s).2.get k = none := by
  have hst : (refHandle sc (.rename k nk false) s).2 = (s.del k).put nk v := by
    simp [h, hne]
  rw [hst]
  constructor
  · exact Store.get_put_same _ _ _
  · rw [Store.get_put_other _ _ _ _ hne]; exact Store.get_del_same _ _

theorem C18_renamenx_existing_target (k nk : Bytes) (s : Store) (v w : Val) (h : s.get k = some v) (h2 : s.get nk = some w) :
    refHandle sc (.rename k nk true) s = (intRes 0, s) := by
  simp [h, h2]

theorem C18_type (k : Bytes) (s : Store) :
    (refHandle sc (.type_ k) s).1.msg = newStatus ((s.get k).elim b!"none" typeName) := by
  simp

/-! ## Lists keep push / pop order -/

theorem C18_rpush_appends (k : Bytes) (l es : List Bytes) (s : Store) (h : s.get k = some (.list l)) :
    (refHandle sc (.rpush k es false) s).2.get k = some (.list (l ++ es)) := by
  simp [h]

theorem C18_lpush_prepends_in_argument_order (k : Bytes) (l es : List Bytes) (s : Store) (h : s.get k = some (.list l)) :
    (refHandle sc (.lpush k es false) s).2.get k = some (.list (es.reverse ++ l)) := by
  simp [h]

theorem C18_lrange_all (k : Bytes) (l : List Bytes) (s : Store) (h : s.get k = some (.list l)) (hl : l ≠ []) :
    (refHandle sc (.lrange k 0 (-1)) s).1.msg = bulks' l := by
  simp [h, rangeSlice_all]

theorem C18_lpop_takes_the_head (k e : Bytes) (l : List Bytes) (s : Store) (h : s.get k = some (.list (e :: l))) :
    (refHandle sc (.lpop k 1) s).1.msg = newBulk e := by
  simp [h]

theorem C18_rpop_takes_the_tail (k e : Bytes) (l : List Bytes) (s : Store) (h : s.get k = some (.list (l ++ [e]))) :
    (refHandle sc (.rpop k 1) s).1.msg = newBulk e := by
  simp [h]

/-- reading a missing list does not create it (it did before the repair) -/
theorem C18_llen_does_not_create (k : Bytes) (s : Store) (h : s.get k = none) :
    refHandle sc (.llen k) s = (intRes 0, s) ∧ refHandle sc (.lrange k 0 (-1)) s = (okRes (.arr []), s) := by
  simp [h]

/-- an emptied container is removed -/
theorem C18_emptied_list_is_removed (k e : Bytes) (s : Store) (h : s.get k = some (.list [e])) :
    (refHandle sc (.lpop k 1) s).2.get k = none := by
  simp [h, Store.putOrDrop]

/-! ## Sets hold no duplicates; sorted sets one entry per member, ordered by score -/

theorem C18_sadd_no_duplicates (k : Bytes) (cur ms : List Bytes) (s : Store) (h : s.get k = some (.set cur))
    (hcur : cur.Nodup) :
    ∃ ms', (refHandle sc (.sadd k ms) s).2.get k = some (.set ms') ∧ ms'.Nodup ∧ (∀ m, m ∈ ms' ↔ m ∈ cur ∨ m ∈ ms) := by
  refine ⟨cur ++ ((dedup ms.reverse).reverse.filter fun m => !cur.contains m), ?_, ?_, fun m => ?_⟩
  · simp [h]
  · have hr : (dedup ms.reverse).reverse.Nodup := List.pairwise_reverse.2 ((dedup_nodup _).imp Ne.symm)
    refine List.nodup_append.2 ⟨hcur, hr.filter _, fun a ha b hb e => ?_⟩
    subst e
    simp [ha] at hb
  · by_cases hc : m ∈ cur <;> simp [mem_dedup, hc]

/-- after ZADD a member has exactly one entry, carrying the new score (ZADD z 1 m; ZADD z 2 m kept two before
the repair) -/
theorem C18_one_entry_per_member (h : Int) (m : Bytes) (cur : List (Int × Bytes)) :
    ((zInsert (h, m) (cur.filter fun q => q.2 != m)).filter fun q => q.2 == m).length = 1 := by
  -- `zInsert` permutes `(h, m) :: …`, and no other entry of the filtered list is `m`'s
  rw [((Ex.zInsert_perm _ _).filter _).length_eq, List.filter_cons_of_pos (by simp), List.filter_filter,
    List.filter_eq_nil_iff.2 (by simp)]
  rfl

/-- a member inserted into a list ordered by (score, member) goes in front of the first greater element -/
theorem zInsert_mem (x : Int × Bytes) (l : List (Int × Bytes)) (y : Int × Bytes) :
    y ∈ zInsert x l ↔ y = x ∨ y ∈ l :=
  (Ex.zInsert_perm x l).mem_iff.trans List.mem_cons

/-! ## The example store's own algorithms refine the reference store

`Model/ExStore` transcribes the loops of `examples/go-redisd/server/{list,set,zset}.go` (scan for the member, splice it
out, search the insertion position, pop element by element, clamp the index range).  The theorems below say that, on
containers that satisfy the store's invariant (no duplicates / one entry per member), every one of them computes
exactly what the reference store defines - for every container, every argument list and every index, count, offset and
limit - and keeps the invariant.  Together with the correspondence check (example server = reference store, reply for
reply) this ties the property's "equals a reference Redis model" to the algorithms as they are written. -/

/-- LRANGE / the window of ZRANGE: `clampRange` + slice expression = Redis index normalisation -/
theorem C18_ex_range (l : List Bytes) (start stop : Int) : Ex.range l start stop = rangeSlice l start stop :=
  Ex.range_eq l start stop

theorem C18_ex_lindex (l : List Bytes) (i : Int) : Ex.index l i = (rangeSlice l i i).head? := Ex.index_eq l i

/-- LPOP / RPOP with any count: the pop loops take what `refHandle` takes and leave what it leaves -/
theorem C18_ex_lpop (l : List Bytes) (n : Nat) : Ex.lpopLoop n l [] = (l.take n, l.drop n) := by
  rw [Ex.lpopLoop_acc, List.nil_append]
theorem C18_ex_rpop (l : List Bytes) (n : Nat) : Ex.rpopLoop n l [] = (l.reverse.take n, l.take (l.length - n)) := by
  rw [Ex.rpopLoop_acc, List.nil_append]
theorem C18_ex_lpush (l es : List Bytes) : Ex.lpush l es = es.reverse ++ l := Ex.lpush_eq l es

/-- LIMIT offset count (any 64-bit values, negative ones included) -/
theorem C18_ex_limit (l : List (Int × Bytes)) (offset count : Int) : Ex.limit l offset count = limitSlice l offset count :=
  Ex.limit_eq l offset count

/-- ZRANGEBYSCORE: the selection loop with its four exclusive/inclusive comparisons and LIMIT is `refHandle`'s -/
theorem C18_ex_zrangebyscore (k : Bytes) (lo hi : UInt64) (o : ZRangeOpt) (s : Store) (cur : List (Int × Bytes)) (l h : Bound)
    (hk : s.get k = some (.zset cur)) (hl : sc lo = some l) (hh : sc hi = some h) :
    (refHandle sc (.zrangebyscore k lo hi o) s).1 =
      okRes (zMembers o.withscores (Ex.zRangeByScore cur l h o.minex o.maxex o.offset o.count)) := by
  simp [refHandle, hk, hl, hh, Ex.zRangeByScore_eq]

/-- ZRANGE by index, REV included (no LIMIT clause) -/
theorem C18_ex_zrange (cur : List (Int × Bytes)) (start stop : Int) (rev : Bool) :
    Ex.zRange cur start stop rev 0 (-1) = rangeSlice (if rev then cur.reverse else cur) start stop :=
  Ex.zRange_eq cur start stop rev

/-- **ZADD**: for every list of (score, member) pairs the loops of `ZSet.Add` leave the entries `refHandle` defines and
count the same new members -/
theorem C18_ex_zadd (k : Bytes) (ms : List (UInt64 × Bytes)) (o : ZAddOpt) (s : Store) (cur : List (Int × Bytes))
    (hk : s.get k = some (.zset cur)) (hd : (cur.map Prod.snd).Nodup) :
    refHandle sc (.zadd k ms o) s =
      (intRes ((Ex.zAdd cur (decodeScores sc ms)).2 : Int), s.putOrDrop k (.zset (Ex.zAdd cur (decodeScores sc ms)).1)) := by
  have h := Ex.zAdd_eq cur (decodeScores sc ms) hd
  simp only [refHandle, hk, Ex.zaddStep_fold]
  rw [h.1, h.2.1]

/-- … and keep "one entry per member" -/
theorem C18_ex_zadd_invariant (cur xs : List (Int × Bytes)) (hd : (cur.map Prod.snd).Nodup) :
    ((Ex.zAdd cur xs).1.map Prod.snd).Nodup := (Ex.zAdd_eq cur xs hd).2.2

/-- **ZREM** -/
theorem C18_ex_zrem (k : Bytes) (ms : List Bytes) (s : Store) (cur : List (Int × Bytes))
    (hk : s.get k = some (.zset cur)) (hd : (cur.map Prod.snd).Nodup) :
    refHandle sc (.zrem k ms) s = (intRes ((Ex.zRem cur ms).2 : Int), s.putOrDrop k (.zset (Ex.zRem cur ms).1)) := by
  simp only [refHandle, hk, Ex.zRem_eq cur ms hd]

/-- **SREM** -/
theorem C18_ex_srem (k : Bytes) (ms : List Bytes) (s : Store) (cur : List Bytes)
    (hk : s.get k = some (.set cur)) (hd : cur.Nodup) :
    refHandle sc (.srem k ms) s = (intRes ((Ex.setRem cur ms).2 : Int), s.putOrDrop k (.set (Ex.setRem cur ms).1)) := by
  simp only [refHandle, hk, Ex.setRem_eq cur ms hd]

/-- **SADD** keeps a set free of duplicates and holds exactly the old and the new members -/
theorem C18_ex_sadd (cur ms : List Bytes) (hd : cur.Nodup) :
    (Ex.setAdd cur ms).1.Nodup ∧ (Ex.setAdd cur ms).2 = (Ex.setAdd cur ms).1.length - cur.length := by
  have h := Ex.setAdd_inv cur ms hd
  exact ⟨h.1, by rw [h.2, Nat.add_sub_cancel_left]⟩

/-- **ZINCRBY** -/
theorem C18_ex_zincrby (cur : List (Int × Bytes)) (d : Int) (m : Bytes) (hd : (cur.map Prod.snd).Nodup) :
    Ex.zIncBy cur d m =
      (zInsert ((cur.find? fun q => q.2 == m).elim 0 Prod.fst + d, m) (cur.filter fun q => q.2 != m),
       (cur.find? fun q => q.2 == m).elim 0 Prod.fst + d) := Ex.zIncBy_eq cur d m hd

/-- HSET / HSETNX on an existing hash: `Hash.Set` – look the field up, refuse under NX, assign, report whether the field is
new – is `refHandle`'s case analysis (the map as its entries) -/
theorem C18_ex_hset (h : List (Bytes × Bytes)) (f v : Bytes) (nx : Bool) :
    Ex.hashSet h f v nx = (match h.lookup f with
      | some _ => if nx then (h, 0) else (h.map (fun p => if p.1 == f then (f, v) else p), 0)
      | none => (h ++ [(f, v)], 1)) := Ex.hashSet_eq h f v nx

/-- HDEL: the loop `if present { delete; removed++ }` over the fields removes exactly the fields that go and counts each
once, however often the request names it – `refHandle`'s `gone` -/
theorem C18_ex_hdel (h : List (Bytes × Bytes)) (fields : List Bytes) :
    Ex.hashDel h fields =
      (let gone := (dedup fields).filter fun f => (h.lookup f).isSome
       (h.filter fun p => !gone.contains p.1, gone.length)) := Ex.hashDel_eq h fields

example : Ex.hashDel [(b!"a", b!"1"), (b!"b", b!"2"), (b!"c", b!"3")] [b!"b", b!"x", b!"b", b!"a"] = ([(b!"c", b!"3")], 2) ∧
    Ex.hashSet [(b!"a", b!"1")] b!"a" b!"9" true = ([(b!"a", b!"1")], 0) ∧
    Ex.hashSet [(b!"a", b!"1")] b!"a" b!"9" false = ([(b!"a", b!"9")], 0) := by decide +kernel

/-- **The source is the one that was transcribed** (regenerated on every run): the container algorithms of
`examples/go-redisd/server/{list,set,zset}.go` have the fingerprints `Model/ExStore` was written from -/
theorem C18_source_is_the_modelled_one :
    Generated.exStoreFingerprints = Ex.modelled.map (fun e => (e.1, e.2.1)) := rfl

/-- non-vacuity: the loops on a concrete sorted set (a member moved to a tie, an unknown member removed) -/
example : Ex.zAdd [(2, b!"a"), (4, b!"b")] [(4, b!"a"), (1, b!"c"), (4, b!"a")] = ([(1, b!"c"), (4, b!"a"), (4, b!"b")], 1) ∧
    Ex.zRem [(2, b!"a"), (4, b!"b")] [b!"zz", b!"a", b!"a"] = ([(4, b!"b")], 1) ∧
    Ex.range [b!"a", b!"b", b!"c"] (-2) 9223372036854775807 = [b!"b", b!"c"] ∧
    Ex.rpopLoop 2 [b!"a", b!"b", b!"c"] [] = ([b!"c", b!"b"], [b!"a"]) := by decide +kernel

/-! ## Non-vacuity: a program, evaluated on the reference store -/
def noScores : ScoreTable := fun _ => none

example : enc (refHandle noScores (.lrange b!"l" 0 (-1))
    (refHandle noScores (.lpush b!"l" [b!"x", b!"y"] false) (refHandle noScores (.rpush b!"l" [b!"a", b!"b"] false) []).2).2).1.msg
    = enc (bulks' [b!"y", b!"x", b!"a", b!"b"]) := by decide +kernel

/-! ## The example store's index arithmetic as translated from the current source (regenerated on every run)

`clampRange`, `limitZSetMembers` and `List.Index` are translated from `examples/go-redisd/server/{list,zset}.go` by
`bin/extract` statement for statement (`Generated/Translated.lean`); the hand transcription in `Model/ExStore`, and with
it `C18_ex_range`, `C18_ex_limit`, `C18_ex_lindex`, is about that code. -/

theorem C18_source_clampRange (length start stop : Int) (hl : 0 ≤ length) (hL : inInt64 length = true)
    (hs : inInt64 start = true) (ht : inInt64 stop = true) :
    Translated.clampRange length start stop = (match Ex.clampRange length start stop with
      | none => (0, 0, false)
      | some (a, b) => (a, b, true)) := Translated.clampRange_eq length start stop hl hL hs ht

/-- LIMIT: the two slice expressions never panic and select `limitSlice`, for any offset and count -/
theorem C18_source_limit (l : List (Int × Bytes)) (offset count : Int) :
    Translated.limitZSetMembers l offset count = .ok (limitSlice l offset count) := by
  rw [Translated.limit_eq, Ex.limit_eq]

/-- LINDEX: the index expression never panics and reads the element Redis' normalisation names -/
theorem C18_source_lindex (l : List Bytes) (i : Int) (hl : (l.length : Int) ≤ 9223372036854775807) (hi : inInt64 i = true) :
    Translated.listIndex l i = .ok (match (rangeSlice l i i).head? with | none => ([], false) | some e => (e, true)) := by
  rw [Translated.listIndex_eq l i hl hi, Ex.index_eq]
  cases (rangeSlice l i i).head? <;> rfl

example : Translated.clampRange 3 0 (-4) = (0, 0, false) ∧ Translated.clampRange 3 (-100) (-3) = (0, 0, true) ∧
    Translated.limitZSetMembers [1, 2, 3] 1 9223372036854775807 = .ok [2, 3] ∧
    Translated.listIndex [b!"a", b!"b"] (-1) = .ok (b!"b", true) := by decide +kernel

end GoRedis
