import GoRedisModel.Model.Glob
namespace GoRedis

/-- Redis glob semantics, declaratively: `*` matches any (possibly empty) sequence, `?` exactly one
character, every other character only itself; the whole key must be consumed. -/
inductive Matches : Bytes → Bytes → Prop
  | nil : Matches [] []
  | star (ps k1 k2 : Bytes) : Matches ps k2 → Matches (42 :: ps) (k1 ++ k2)
  | one (ps : Bytes) (c : UInt8) (cs : Bytes) : Matches ps cs → Matches (63 :: ps) (c :: cs)
  | lit (c : UInt8) (ps cs : Bytes) : c ≠ 42 → c ≠ 63 → Matches ps cs → Matches (c :: ps) (c :: cs)

theorem mem_suffixes {x k : Bytes} : x ∈ suffixes k ↔ x <:+ k := by
  induction k with
  | nil => rw [suffixes, List.mem_singleton, List.suffix_nil]
  | cons c cs ih => rw [suffixes, List.mem_cons, ih, List.suffix_cons_iff]

theorem globMatch_iff (p k : Bytes) : globMatch p k = true ↔ Matches p k := by
  constructor
  · intro h
    induction p generalizing k with
    | nil =>
      rw [globMatch_nil, List.isEmpty_iff] at h
      rw [h]
      exact .nil
    | cons q ps ih =>
      by_cases hq : q = 42
      · -- `*` takes what precedes the suffix that matches the rest
        rw [hq, ← suffixes_any] at h
        obtain ⟨x, hx, hm⟩ := List.any_eq_true.mp h
        obtain ⟨k1, rfl⟩ := mem_suffixes.mp hx
        rw [hq]
        exact .star ps k1 x (ih x hm)
      · cases k with
        | nil => rw [globMatch_cons_nil hq] at h; cases h
        | cons c cs =>
          rw [globMatch_cons_cons hq, Bool.and_eq_true, Bool.or_eq_true, beq_iff_eq, beq_iff_eq] at h
          obtain ⟨hc, hrest⟩ := h
          by_cases h63 : q = 63
          · rw [h63]
            exact .one ps c cs (ih cs hrest)
          · rw [← hc.resolve_left h63]
            exact .lit q ps cs hq h63 (ih cs hrest)
  · intro h
    induction h with
    | nil => exact globMatch_nil []
    | star ps k1 k2 _ ih =>
      rw [← suffixes_any]
      exact List.any_eq_true.mpr ⟨k2, mem_suffixes.mpr ⟨k1, rfl⟩, ih⟩
    | one ps c cs _ ih => rw [globMatch_cons_cons (by decide), ih]; rfl
    | lit c ps cs h1 _ _ ih => rw [globMatch_cons_cons h1, ih, beq_self_eq_true, Bool.or_true]; rfl

theorem globTok_src (c : UInt8) : globTok c = (gtok c).src := by
  unfold globTok gtok
  split
  · rfl
  · split
    · rfl
    · rfl

/-- the regular expression the framework compiles is: anchors, dot-matches-newline, and one of the three
token shapes per pattern character — nothing of the pattern is interpreted as regular-expression syntax -/
theorem globRegex_tokens (p : Bytes) : globRegex p = b!"(?s)^" ++ (p.map gtok).flatMap GTok.src ++ b!"$" := by
  rw [globRegex, List.flatMap_map, ← funext globTok_src]

/-- under the assumed semantics of the three token shapes, the compiled pattern matches exactly what the
direct matcher matches -/
theorem tokMatch_eq_globMatch (p k : Bytes) : tokMatch (p.map gtok) k = globMatch p k := by
  induction p generalizing k with
  | nil => rw [globMatch_nil, List.map_nil, tokMatch]
  | cons q ps ih =>
    rw [List.map_cons]
    by_cases hq : q = 42
    · rw [hq, show gtok 42 = .anyStar from rfl]
      induction k with
      | nil => rw [tokMatch, ih, globMatch_star_nil, Bool.or_false]
      | cons c cs ihk => rw [tokMatch, ih, ihk, globMatch_star_cons]
    · rw [gtok, if_neg (by simpa using hq)]
      cases k with
      | nil => rw [globMatch_cons_nil hq]; split <;> rw [tokMatch]
      | cons c cs =>
        rw [globMatch_cons_cons hq, ← ih]
        split
        · next h63 => rw [tokMatch, h63, Bool.true_or, Bool.true_and]
        · next h63 => rw [tokMatch, Bool.eq_false_iff.mpr h63, Bool.false_or]

end GoRedis
