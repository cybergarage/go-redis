import GoRedisModel.Model.Args
/-! The argument readers of `Model/Args` on well-formed and ill-formed request elements. -/
namespace GoRedis

@[simp] theorem msgStr_B (b : Bytes) : msgStr (B b) = .ok b := rfl
@[simp] theorem msgStr_null : msgStr (.bulk none) = .error errNil := rfl
@[simp] theorem msgInt_B (b : Bytes) (i : Int) (h : atoi b = some i) : msgInt (B b) = .ok i := by
  rw [B, msgInt, h]; rfl
theorem msgInt_B_bad (b : Bytes) (h : atoi b = none) : msgInt (B b) = .error errAtoi := by
  rw [B, msgInt, h]; rfl
@[simp] theorem msgInt_null : msgInt (.bulk none) = .error errAtoi := rfl

@[simp] theorem nextString_B (w b : Bytes) (rest : List Msg) : nextString w (B b :: rest) = .ok (b, rest) := rfl
@[simp] theorem nextString_nil (w : Bytes) : nextString w [] = .error (errMissing w errEOM) := rfl
@[simp] theorem nextString_null (w : Bytes) (rest : List Msg) :
    nextString w (.bulk none :: rest) = .error (errMissing w errNil) := rfl
theorem nextInteger_B (w b : Bytes) (rest : List Msg) :
    nextInteger w (B b :: rest) =
      match atoi b with | some i => .ok (i, rest) | none => .error (errMissing w errAtoi) := by
  cases h : atoi b <;> simp [nextInteger, nextIntegerRaw, B, msgInt, h, Option.elim]
@[simp] theorem nextInteger_nil (w : Bytes) : nextInteger w [] = .error (errMissing w errEOM) := rfl
@[simp] theorem nextInteger_null (w : Bytes) (rest : List Msg) :
    nextInteger w (.bulk none :: rest) = .error (errMissing w errAtoi) := rfl
theorem nextFloat_B (pf : FloatOracle) (w b : Bytes) (rest : List Msg) :
    nextFloat pf w (B b :: rest) =
      match pf b with | some v => .ok (v, rest) | none => .error (errMissing w errFloat) := rfl
@[simp] theorem nextFloat_nil (pf : FloatOracle) (w : Bytes) : nextFloat pf w [] = .error (errMissing w errEOM) := rfl
@[simp] theorem nextFloat_null (pf : FloatOracle) (w : Bytes) (rest : List Msg) :
    nextFloat pf w (.bulk none :: rest) = .error (errMissing w errNil) := rfl

theorem readStrings_cons_B (b : Bytes) (ms : List Msg) :
    readStrings (B b :: ms) = match readStrings ms with | .ok bs => .ok (b :: bs) | .error e => .error e := rfl

theorem readStrings_B (l : List Bytes) : readStrings (l.map B) = .ok l := by
  induction l with
  | nil => rfl
  | cons b bs ih => rw [List.map_cons, readStrings_cons_B, ih]

theorem nextStrings_B (w : Bytes) (b : Bytes) (l : List Bytes) :
    nextStrings w ((b :: l).map B) = .ok (b :: l, []) := by
  rw [nextStrings, readStrings_B]

@[simp] theorem nextStrings_nil (w : Bytes) : nextStrings w [] = .error (errMissing w errEOM) := rfl

theorem readStrings_null (l : List Bytes) (rest : List Msg) :
    readStrings (l.map B ++ .bulk none :: rest) = .error errNil := by
  induction l with
  | nil => rfl
  | cons b bs ih => rw [List.map_cons, List.cons_append, readStrings_cons_B, ih]

theorem nextStrings_null (w : Bytes) (l : List Bytes) (rest : List Msg) :
    nextStrings w (l.map B ++ .bulk none :: rest) = .error (errMissing w errNil) := by
  rw [nextStrings, readStrings_null]

def pairMsgs : List (Bytes × Bytes) → List Msg
  | [] => []
  | (k, v) :: ps => B k :: B v :: pairMsgs ps

theorem readPairs_cons_B (k v : Bytes) (ms : List Msg) :
    readPairs (B k :: B v :: ms) = match readPairs ms with | .ok ps => .ok ((k, v) :: ps) | .error e => .error e := rfl

theorem readPairs_B (ps : List (Bytes × Bytes)) : readPairs (pairMsgs ps) = .ok ps := by
  induction ps with
  | nil => rfl
  | cons p ps ih => rw [pairMsgs, readPairs_cons_B, ih]

theorem readPairs_dangling (ps : List (Bytes × Bytes)) (k : Bytes) :
    readPairs (pairMsgs ps ++ [B k]) = .error (errMissing b!"value" errEOM) := by
  induction ps with
  | nil => rfl
  | cons p ps ih => rw [pairMsgs, List.cons_append, List.cons_append, readPairs_cons_B, ih]

theorem nextPairs_B (p : Bytes × Bytes) (ps : List (Bytes × Bytes)) :
    nextPairs (pairMsgs (p :: ps)) = .ok (mapOfPairs (p :: ps), []) := by
  rw [nextPairs, readPairs_B]

@[simp] theorem nextPairs_nil : nextPairs [] = .error (errMissing b!"key" errEOM) := rfl

theorem nextPairs_dangling (ps : List (Bytes × Bytes)) (k : Bytes) :
    nextPairs (pairMsgs ps ++ [B k]) = .error (errMissing b!"value" errEOM) := by
  rw [nextPairs, readPairs_dangling]

/-! ## Association lists: the store, the server's configuration, a Go map -/

theorem lookup_cons_ite {β : Type} (k' : Bytes) (v' : β) (l : List (Bytes × β)) (k : Bytes) :
    ((k', v') :: l).lookup k = if k = k' then some v' else l.lookup k := by
  by_cases h : k = k' <;> simp [List.lookup_cons, h, beq_false_of_ne]

theorem lookup_filter_ne {β : Type} (l : List (Bytes × β)) (k k2 : Bytes) :
    (l.filter fun p => p.1 != k).lookup k2 = if k2 = k then none else l.lookup k2 := by
  induction l with
  | nil => simp
  | cons p l ih =>
    obtain ⟨k', v'⟩ := p
    by_cases hk : k' = k
    · rw [List.filter_cons_of_neg (by simpa using hk), ih, lookup_cons_ite, hk]
      split <;> rfl
    · rw [List.filter_cons_of_pos (by simpa using hk), lookup_cons_ite, lookup_cons_ite, ih]
      split
      · rename_i h2; rw [if_neg (h2 ▸ hk)]
      · rfl

theorem mapOfPairs_cons_lookup (k' v' : Bytes) (ps : List (Bytes × Bytes)) (k : Bytes) :
    (mapOfPairs ((k', v') :: ps)).lookup k =
      if k == k' then some (((mapOfPairs ps).lookup k').getD v') else (mapOfPairs ps).lookup k := by
  simp only [mapOfPairs]
  cases hk : k == k'
  · have hne : k ≠ k' := by simpa using hk
    cases (mapOfPairs ps).lookup k' <;> simp [List.lookup_cons, hk, lookup_filter_ne, hne]
  · cases (mapOfPairs ps).lookup k' <;> simp [List.lookup_cons, hk]

theorem mapOfPairs_lookup (ps : List (Bytes × Bytes)) (k : Bytes) :
    (mapOfPairs ps).lookup k = (ps.reverse.lookup k) := by
  induction ps generalizing k with
  | nil => rfl
  | cons p ps ih =>
    obtain ⟨k', v'⟩ := p
    rw [mapOfPairs_cons_lookup, List.reverse_cons, List.lookup_append, ih, ih]
    cases hk : k == k'
    · simp [List.lookup_cons, hk]
    · rw [eq_of_beq hk]; cases ps.reverse.lookup k' <;> simp

end GoRedis
