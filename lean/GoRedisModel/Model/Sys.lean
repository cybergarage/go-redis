import GoRedisModel.Model.Conn
/-! Several connections served by one server: a schedule picks which connection has its next whole request processed
(the requests of one connection are processed in order; `reqStep` is the atomic step, as `dispatch` runs under the
server's mutex). -/
namespace GoRedis

/-- the server-wide state, the state of every connection (`none` = the connection has ended), and the
handler's future answers -/
structure Sys where
  srv : SrvSt
  conns : List (Option ConnSt)
  script : List HRes

/-- connection `i` has its next request `m` processed (nothing happens on a connection that has ended) -/
def Sys.step (pf : FloatOracle) (s : Sys) (i : Nat) (m : Msg) : Sys × List Ev :=
  match s.conns[i]? with
  | some (some c) =>
    let r := reqStep pf s.srv c m s.script
    match r.next with
    | none => ({ s with conns := s.conns.set i none, script := r.script }, r.evs)
    | some (c', srv') => ({ srv := srv', conns := s.conns.set i (some c'), script := r.script }, r.evs)
  | _ => (s, [])

/-- a schedule: which connection's request is processed next, for every global interleaving -/
def Sys.run (pf : FloatOracle) : Sys → List (Nat × Msg) → Sys × List (Nat × Ev)
  | s, [] => (s, [])
  | s, (i, m) :: rest =>
    let (s1, evs) := s.step pf i m
    let (s2, evs2) := Sys.run pf s1 rest
    (s2, evs.map (fun e => (i, e)) ++ evs2)

end GoRedis
