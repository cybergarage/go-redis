import GoRedisModel.Proofs.SourceFacts
import GoRedisModel.Proofs.Truncate
import GoRedisModel.Proofs.Loop
import GoRedisModel.Proofs.Chunked
/-! # C11 — a request is executed only if it was received completely -/
namespace GoRedis

/-- a client request: a non-empty array of non-null bulk strings -/
def request (args : List Bytes) : Msg := .arr (bulks args)

def ValidRequest (args : List Bytes) : Prop :=
  args ≠ [] ∧ (∀ b ∈ args, b.length ≤ maxBulk) ∧ args.length ≤ maxInt

/-- **Every strict prefix of a request is a parse error** — never a value, never a clean end of stream — for every
request and every byte offset `0 < p < |enc r|` (inside the count line, between CR and LF, inside a bulk length, inside a
payload, before a payload's CRLF, exactly between two elements), so the loop drops the connection without executing
anything for it. -/
theorem C11_prefix_is_error (args : List Bytes) (hv : ValidRequest args) (p : Nat) (hp0 : 0 < p)
    (hp : p < (enc (request args)).length) (f : Nat) :
    parse (f + 2) ((enc (request args)).take p) = .err := by
  obtain ⟨hne, hlen, hn⟩ := hv
  have hb : ∀ m ∈ bulks args, ∃ b, m = .bulk (some b) ∧ b.length ≤ maxBulk := by simpa [bulks] using hlen
  rw [request, cut_arr f (bulks args) (by cases args <;> simp [bulks, encs, enc] at hne ⊢) (by simpa [bulks] using hn)
    ?_ ?_ p hp, if_neg (by omega)]
  · intro m hm r
    obtain ⟨b, rfl, hl⟩ := hb m hm
    exact parse_enc (.bulk (some b)) hl _ (Nat.zero_lt_succ f) r
  · intro m hm
    obtain ⟨b, rfl, hl⟩ := hb m hm
    exact cut_bulk f b hl

/-- …and the same over the real transport, however the surviving bytes were segmented. -/
theorem C11_prefix_is_error_chunked (args : List Bytes) (hv : ValidRequest args) (p : Nat) (hp0 : 0 < p)
    (hp : p < (enc (request args)).length) (r : Reader) (hr : r.rest = (enc (request args)).take p) :
    inext (r.rest.length + 2) r = .err := by
  have h := inext_spec (r.rest.length + 2) r (by omega)
  rw [hr, C11_prefix_is_error args hv p hp0 hp] at h
  rw [hr]
  exact flat_eq_some h

/-- **Handler calls come from complete requests only.**  A stream that consists of complete values `ms`
followed by a strict prefix of one more request produces exactly the trace of `ms` alone — the same handler
calls with the same arguments, the same replies, once each — and then ends: nothing is executed for the
partial request, with any cut point. -/
theorem C11_partial_request_not_executed (pf : FloatOracle) (ms : List Msg) (hw : wfs ms)
    (args : List Bytes) (hv : ValidRequest args) (p : Nat) (hp : p < (enc (request args)).length)
    (srv : SrvSt) (requirePass : Bool) (script : List HRes) :
    serve pf srv requirePass (encs ms ++ (enc (request args)).take p) script =
      serve pf srv requirePass (encs ms) script := by
  have hnot : ∀ m r, parse (((enc (request args)).take p).length + 1) ((enc (request args)).take p) ≠ .ok m r := by
    intro m r
    by_cases hp0 : p = 0
    · subst hp0; simp [parse]
    · have hl : ((enc (request args)).take p).length = p := List.length_take_of_le (Nat.le_of_lt hp)
      obtain ⟨f, hf⟩ : ∃ f, p + 1 = f + 2 := ⟨p - 1, by omega⟩
      rw [hl, hf, C11_prefix_is_error args hv p (by omega) hp f]
      exact nofun
  rw [serve_eq_steps, serve_eq_steps, values_encs_append ms hw, values_stop hnot, List.append_nil, values_encs ms hw]

/-- **The connection is then released**: the trace ends with the registry removal and the close. -/
theorem C11_released (pf : FloatOracle) (srv : SrvSt) (requirePass : Bool) (input : Bytes) (script : List HRes) :
    ∃ body, serve pf srv requirePass input script = body ++ [.deregister, .close] := ⟨_, rfl⟩

/-! ## Non-vacuity -/
example : ValidRequest [b!"LPOP", b!"l"] := by
  refine ⟨by simp, ?_, by simp [maxInt]⟩
  intro b hb; simp at hb; rcases hb with rfl | rfl <;> simp [maxBulk]

/-- `*2 $4 LPOP $1 l` cut before the final CRLF (this executed the LPOP before the repair) -/
example : parse 30 b!"*2\r\n$4\r\nLPOP\r\n$1\r\nl" = .err :=
  C11_prefix_is_error [b!"LPOP", b!"l"] (by
    refine ⟨by simp, ?_, by simp [maxInt]⟩
    intro b hb; simp at hb; rcases hb with rfl | rfl <;> simp [maxBulk]) 19 (by decide) (by decide) 28

/-- **The source is the one the model was written from** (regenerated on every run): the connection loop (`serveConn`, `receive`, `dispatch`, `handleMessage`, `responseMessage`, `executeCommand`, `upperASCII`) of the current source
have the fingerprints recorded in the model; a change to any of them means the theorems above are not shown for the code
as it is now, until the model has been compared with it again -/
theorem C11_source_conn_loop_is_the_modelled_one :
    connLoopModelled.all (fun e => Generated.serverFingerprints.contains (e.1, e.2.1)) = true := source_conn_loop_is_the_modelled_one

end GoRedis
