import GoRedisModel.Proofs.LifeSys
import GoRedisModel.Model.Lifecycle
import GoRedisModel.Model.Conn
import GoRedisModel.Proofs.SourceFacts
import GoRedisModel.Model.Discipline
/-! # C19 — connection resources are released however the connection ends -/
namespace GoRedis

/-- however a connection goroutine ends, it leaves the registry, closes the socket and terminates -/
theorem C19_conn_end_releases (s : LS) (id : Nat) (c : ConnG) (hc : c ∈ (s.step (.connEnd id)).conns) (hid : c.id = id) :
    c.registered = false ∧ c.sockOpen = false ∧ c.alive = false := by
  simp only [LS.step, List.mem_map] at hc
  obtain ⟨c0, _, rfl⟩ := hc
  by_cases h : (c0.id == id) = true
  · simp [h]
  · simp only [h] at hid
    exact absurd (by simpa using hid) h

/-- every way out of `receive` runs the two deferred releases (registry removal, socket close), for every
input and every handler behaviour, panics included -/
theorem C19_receive_always_releases (pf : FloatOracle) (srv : SrvSt) (requirePass : Bool) (input : Bytes) (script : List HRes) :
    ∃ body, serve pf srv requirePass input script = body ++ [.deregister, .close] := ⟨_, rfl⟩

/-- **Stop releases everything**: in every state reachable by any interleaving, once Stop has returned there is
no connection, no accept loop and no listening socket left. -/
theorem C19_stop_releases (plain tls : Bool) (sched : List LAct)
    (hs : (({ plain := plain, tls := tls } : LS).run sched).phase = .idle)
    (hf : (({ plain := plain, tls := tls } : LS).run sched).field = none) :
    (({ plain := plain, tls := tls } : LS).run sched).conns = [] ∧
    (({ plain := plain, tls := tls } : LS).run sched).openL = [] :=
  have inv := LInv.run _ (LInv.init plain tls) sched
  ⟨inv.stopped hs hf, inv.noListen hf⟩

/-! ## The client-visible state machine: every ending mode returns the registry to its baseline -/

def isEnding : LifeAct → Option String
  | .cclose id => some id | .rst id => some id | .half id => some id | .quit id => some id | .bad id => some id
  | .unread id => some id | .halfcr id => some id | .halfbulk id => some id | .crash id => some id
  | _ => none

/-- each ending mode (client close, reset, half request then close, QUIT, malformed frame, pipelined requests left unread, a request
that makes the application's handler panic) removes exactly
that connection -/
theorem C19_ending_removes_exactly (cfg : LifeCfg) (s : LifeSt) (a : LifeAct) (id : String) (h : isEnding a = some id) :
    (lifeStepA cfg s a).2.conns = s.conns.filter (fun c => c.1 != id) ∧ (lifeStepA cfg s a).2.running = s.running := by
  cases a <;> cases h <;> exact ⟨rfl, rfl⟩

/-- a failed TLS handshake or rejected certificate leaves no connection behind -/
theorem C19_tls_fault_leaves_nothing (cfg : LifeCfg) (s : LifeSt) (kind id : String)
    (hk : kind ≠ "stall") (hbad : tlsServed cfg (certIn s.ca kind) = false) :
    (lifeStepA cfg s (.tlsbad kind id)).2.conns = s.conns := by
  have hs : (kind == "stall") = false := by simpa using hk
  simp only [lifeStepA.eq_def, hs, hbad, Bool.false_eq_true, if_false, apply_ite Prod.snd, ite_self]

/-- an attempt to connect changes nothing in the registry but, possibly, that connection -/
theorem open_conns (cfg : LifeCfg) (s : LifeSt) (tls : Bool) (id : String) :
    ((lifeStepA cfg s (.open_ tls id)).2.conns.filter fun c => c.1 != id) = s.conns.filter fun c => c.1 != id := by
  have : [(id, false)].filter (fun c => c.1 != id) = [] := by simp
  simp only [lifeStepA.eq_def, apply_ite Prod.snd, apply_ite LifeSt.conns, apply_ite (List.filter _), List.filter_append,
    this, List.append_nil, ite_self]

/-- **Churn returns to the baseline**: any number of connect / end cycles, with any ending modes, of
connections that are not already there, leaves the registry as it was. -/
theorem C19_churn_baseline (cfg : LifeCfg) (s : LifeSt) (cycles : List (Bool × String × LifeAct))
    (hend : ∀ c ∈ cycles, isEnding c.2.2 = some c.2.1)
    (hfresh : ∀ c ∈ cycles, s.has c.2.1 = false) :
    (cycles.foldl (fun st c => (lifeStepA cfg (lifeStepA cfg st (.open_ c.1 c.2.1)).2 c.2.2).2) s).conns = s.conns := by
  refine List.foldlRecOn cycles _ (motive := fun (st : LifeSt) => st.conns = s.conns) rfl fun st hst ⟨tls, id, a⟩ hc => ?_
  -- after opening (whether it succeeded or not) and ending `id`, which was not there, the registry is what it was
  have hfil : s.conns.filter (fun c => c.1 != id) = s.conns :=
    List.filter_eq_self.mpr fun c hc' => by simpa using List.any_eq_false.mp (hfresh _ hc) c hc'
  rw [(C19_ending_removes_exactly cfg _ a id (hend _ hc)).1, open_conns, hst, hfil]

/-- close and deregistration are deferred calls of the connection loop in the current source -/
theorem C19_source_releases_deferred :
    (factHolds "deferClose" && factHolds "deferRemoveConn") = true := by decide +kernel

/-- **The source is the one the model was written from** (regenerated on every run): the connection loop (`serveConn`, `receive`, `dispatch`, `handleMessage`, `responseMessage`, `executeCommand`, `upperASCII`) of the current source
have the fingerprints recorded in the model; a change to any of them means the theorems above are not shown for the code
as it is now, until the model has been compared with it again -/
theorem C19_source_conn_loop_is_the_modelled_one :
    connLoopModelled.all (fun e => Generated.serverFingerprints.contains (e.1, e.2.1)) = true := source_conn_loop_is_the_modelled_one

end GoRedis
