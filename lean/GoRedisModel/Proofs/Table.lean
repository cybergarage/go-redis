import GoRedisModel.Properties.Grammar
import GoRedisModel.Proofs.Args
/-! The positional shapes of `Model/Exec` and the grammar of `Properties/Grammar`: what a shape does on well-formed
arguments (`shapeX_ok`), that the user table holds, under the name of every grammar row, the shape the row's form names
(`grammar_in_userTable`), and from the two what a row dispatches and what it rejects.  On ill-formed arguments a reader
fails (`Proofs/Args`) and with it the executor: `rejects_of_shape` computes every such case. -/
namespace GoRedis

/-- an executor rejected the request: an error outcome without any handler call -/
def Rejects (p : UProg Out) : Prop := ∃ e, p = failE e

@[simp] theorem rejects_failE (e : Err) : Rejects (failE e) := ⟨e, rfl⟩

theorem withArgs_ok {α : Type} (r : R α) (args rest : List Msg) (a : α) (k : α → List Msg → UProg Out)
    (h : r args = .ok (a, rest)) : withArgs r args k = k a rest := by rw [withArgs, h]

theorem withArgs_err {α : Type} (r : R α) (args : List Msg) (e : Err) (k : α → List Msg → UProg Out)
    (h : r args = .error e) : withArgs r args k = failE e := by rw [withArgs, h]

theorem shapeS_ok (mk : Bytes → HCall) (k : Bytes) (rest : List Msg) : shapeS mk (B k :: rest) = callRet (mk k) := rfl

theorem shapeSS_ok (mk : Bytes → Bytes → HCall) (a b : Bytes) (rest : List Msg) :
    shapeSS mk (B a :: B b :: rest) = callRet (mk a b) := rfl

theorem shapeSSS_ok (mk : Bytes → Bytes → Bytes → HCall) (a b c : Bytes) (rest : List Msg) :
    shapeSSS mk (B a :: B b :: B c :: rest) = callRet (mk a b c) := rfl

theorem shapeSI_ok (mk : Bytes → Int → HCall) (a tok : Bytes) (i : Int) (rest : List Msg) (h : atoi tok = some i) :
    shapeSI mk (B a :: B tok :: rest) = callRet (mk a i) := by
  simp only [shapeSI, withArgs, nextString_B, nextInteger_B, h]

theorem shapeSII_ok (mk : Bytes → Int → Int → HCall) (a t1 t2 : Bytes) (i j : Int) (rest : List Msg)
    (h1 : atoi t1 = some i) (h2 : atoi t2 = some j) :
    shapeSII mk (B a :: B t1 :: B t2 :: rest) = callRet (mk a i j) := by
  simp only [shapeSII, withArgs, nextString_B, nextInteger_B, h1, h2]

theorem shapeSFS_ok (pf : FloatOracle) (mk : Bytes → UInt64 → Bytes → HCall) (a tok c : Bytes) (v : UInt64)
    (rest : List Msg) (h : pf tok = some v) :
    shapeSFS pf mk (B a :: B tok :: B c :: rest) = callRet (mk a v c) := by
  simp only [shapeSFS, withArgs, nextString_B, nextFloat_B, h]

theorem shapeL_ok (mk : List Bytes → HCall) (b : Bytes) (l : List Bytes) :
    shapeL mk ((b :: l).map B) = callRet (mk (b :: l)) := by
  simp only [shapeL, withArgs, nextStrings_B]

theorem shapeSL_ok (mk : Bytes → List Bytes → HCall) (a b : Bytes) (l : List Bytes) :
    shapeSL mk (B a :: (b :: l).map B) = callRet (mk a (b :: l)) := by
  simp only [shapeSL, withArgs, nextString_B, nextStrings_B]

/-- the model's executor for a positional form -/
def Form.exec (pf : FloatOracle) : Form → UExec
  | .s f => shapeS f | .ss f => shapeSS f | .sss f => shapeSSS f | .si f => shapeSI f | .sii f => shapeSII f
  | .sfs f => shapeSFS pf f | .l f => shapeL f | .sl f => shapeSL f

/-- **The grammar and the model's table agree**: under the name of every grammar row the user table holds the executor of
the row's form -/
theorem grammar_in_userTable (pf : FloatOracle) :
    ∀ row ∈ grammar, (userTable pf).lookup row.name = some (row.form.exec pf) :=
  -- both sides are lists of 28 closed terms: the lookups are evaluated, the executors compared, in one `rfl`
  List.map_inj_left.mp (rfl : grammar.map (fun r => (userTable pf).lookup r.name) = grammar.map fun r => some (r.form.exec pf))

theorem dispatches_of_shape (pf : FloatOracle) (row : Row)
    (h : (userTable pf).lookup row.name = some (row.form.exec pf)) : row.Dispatches pf := by
  intro srv conn c hh ha hu
  have key : ∀ args call, row.form.exec pf args = callRet call →
      executeCommand pf srv conn c args = singleCall row.name call conn srv :=
    fun args call hx => dispatch_callRet pf srv conn c args _ call hh ha hu h hx
  obtain ⟨name, form⟩ := row
  cases form with
  | s f => intro k rest; exact key _ _ (shapeS_ok f k rest)
  | ss f => intro a b rest; exact key _ _ (shapeSS_ok f a b rest)
  | sss f => intro a b d rest; exact key _ _ (shapeSSS_ok f a b d rest)
  | si f => intro a tok i rest h; exact key _ _ (shapeSI_ok f a tok i rest h)
  | sii f => intro a t1 t2 i j rest h1 h2; exact key _ _ (shapeSII_ok f a t1 t2 i j rest h1 h2)
  | sfs f => intro a tok v d rest h; exact key _ _ (shapeSFS_ok pf f a tok d v rest h)
  | l f => intro b l; exact key _ _ (shapeL_ok f b l)
  | sl f => intro a b l; exact key _ _ (shapeSL_ok f a b l)

theorem rejects_of_shape (pf : FloatOracle) (row : Row)
    (h : (userTable pf).lookup row.name = some (row.form.exec pf)) : row.RejectsIllFormed pf := by
  intro srv conn c hh ha hu
  have key : ∀ args, Rejects (row.form.exec pf args) → RejectedBy pf srv conn c row.name args :=
    fun args ⟨e, hx⟩ => ⟨e, dispatch_failE pf srv conn c args _ e hh ha hu h hx⟩
  obtain ⟨name, form⟩ := row
  -- every variant makes one reader of the form fail on its element: the executor computes to `failE` of that reader's error
  cases form <;> (repeat' apply And.intro) <;> intros <;> apply key <;>
    simp only [Form.exec, shapeS, shapeSS, shapeSSS, shapeSI, shapeSII, shapeSFS, shapeL, shapeSL, withArgs,
      nextString_B, nextString_nil, nextString_null, nextInteger_B, nextInteger_nil, nextInteger_null,
      nextFloat_B, nextFloat_nil, nextFloat_null, nextStrings_nil, nextStrings_null, *, rejects_failE]

end GoRedis
