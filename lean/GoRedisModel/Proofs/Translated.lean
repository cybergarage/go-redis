import GoRedisModel.Generated.Translated
import GoRedisModel.Model.ExStore
import GoRedisModel.Model.Exec
import GoRedisModel.Model.ParserImpl
import GoRedisModel.Proofs.RefStore
/-! The definitions that `bin/extract` translates from /repo's Go source on every run (`Generated/Translated.lean`)
compute what the hand-written model says, on every input: the hand-written definitions of these functions are the
code.  Integers are Go's 64-bit `int`: the hypotheses say that the arguments are `int` values and that a length is a
length; under them no addition of the source wraps around and no slice expression panics – both are *proved*, not
assumed (the translation keeps the wrap-around and the panic). -/
namespace GoRedis.Translated
open GoRedis GoRedis.GoSem

theorem inInt64_iff {i : Int} : inInt64 i = true ↔ -9223372036854775808 ≤ i ∧ i ≤ 9223372036854775807 := by
  simp only [inInt64, decide_eq_true_eq]

theorem wrap64_id {i : Int} (h : inInt64 i = true) : wrap64 i = i := by
  rw [inInt64_iff] at h
  unfold wrap64
  simp only
  split <;> omega

/-! The wrapping operations occur in three places of the index code; in each the operands are an `int` and a length, and
the result is in range.  These three lemmas remove them before anything else is looked at. -/

/-- `if i < 0 { i = len + i }` -/
theorem normIdx_wadd {len i : Int} (hl : 0 ≤ len) (hL : inInt64 len = true) (hi : inInt64 i = true) :
    (if i < 0 then wadd len i else i) = normIdx len i := by
  unfold normIdx
  split
  · rw [inInt64_iff] at hL hi
    exact wrap64_id (inInt64_iff.2 (by omega))
  · rfl

/-- `len - 1` -/
theorem wsub_one {len : Int} (hl : 0 ≤ len) (hL : inInt64 len = true) : wsub len 1 = len - 1 := by
  rw [inInt64_iff] at hL
  exact wrap64_id (inInt64_iff.2 (by omega))

/-- the slice expression `x[s : e+1]` for `0 ≤ s ≤ e < len(x)`: the addition does not wrap and the bounds check passes -/
theorem slice_succ {α : Type} (x : List α) (s e : Int) (h0 : 0 ≤ s) (h1 : s ≤ e) (h2 : e < x.length)
    (hl : (x.length : Int) ≤ 9223372036854775807) :
    slice x s (wadd e 1) = some ((x.drop s.toNat).take (e.toNat + 1 - s.toNat)) := by
  rw [wadd, wrap64_id (inInt64_iff.2 (by omega)), slice, if_pos (by omega), show (e + 1).toNat = e.toNat + 1 by omega]

theorem inInt64_length {α : Type} {x : List α} (hl : (x.length : Int) ≤ 9223372036854775807) :
    inInt64 (x.length : Int) = true := inInt64_iff.2 (by omega)

/-! ## examples/go-redisd/server: clampRange, limitZSetMembers, List.Index -/

theorem clampRange_eq (length start stop : Int) (hl : 0 ≤ length) (hL : inInt64 length = true)
    (hs : inInt64 start = true) (ht : inInt64 stop = true) :
    clampRange length start stop = (match Ex.clampRange length start stop with
      | none => (0, 0, false)
      | some (a, b) => (a, b, true)) := by
  simp only [clampRange, Ex.clampRange, normIdx_wadd hl hL hs, normIdx_wadd hl hL ht, wsub_one hl hL, ← normIdx_def,
    clamp_lo, clamp_hi]
  split <;> rfl

theorem limit_eq {α : Type} (mems : List α) (offset count : Int) :
    limitZSetMembers mems offset count = .ok (Ex.limit mems offset count) := by
  unfold limitZSetMembers Ex.limit sliceFrom sliceTo
  by_cases h : offset < 0 ∨ (mems.length : Int) ≤ offset
  · rw [if_pos h, if_pos h]
  · have h1 : 0 ≤ offset ∧ offset ≤ (mems.length : Int) := by omega
    simp only [h, if_false, h1, and_self, if_true]
    by_cases h2 : 0 ≤ count ∧ count < ((mems.drop offset.toNat).length : Int)
    · have h3 : 0 ≤ count ∧ count ≤ ((mems.drop offset.toNat).length : Int) := by omega
      simp only [h2, and_self, if_true, h3]
    · simp only [h2, if_false]

theorem listIndex_eq (els : List Bytes) (idx : Int) (hl : (els.length : Int) ≤ 9223372036854775807) (hi : inInt64 idx = true) :
    listIndex els idx = .ok (match Ex.index els idx with | none => ([], false) | some e => (e, true)) := by
  have h0 : (0 : Int) ≤ els.length := Int.natCast_nonneg _
  simp only [listIndex, Ex.index, normIdx_wadd h0 (inInt64_length hl) hi, wsub_one h0 (inInt64_length hl), ← normIdx_def]
  generalize normIdx els.length idx = x
  split
  · rfl
  · have hx : x.toNat < els.length := by omega
    simp only [GoSem.index, if_pos (show 0 ≤ x ∧ x < els.length by omega), List.getElem?_eq_getElem hx]

/-! ## redis/sugar_commander.go: the GETRANGE window, the counter overflow tests -/

theorem getrange_eq (v : Bytes) (s e : Int) (hl : (v.length : Int) ≤ 9223372036854775807)
    (hs : inInt64 s = true) (he : inInt64 e = true) :
    getrangeWindow v s e = .ok (getRange v s e) := by
  have h0 : (0 : Int) ≤ v.length := Int.natCast_nonneg _
  simp only [getrangeWindow, normIdx_wadd h0 (inInt64_length hl) hs, normIdx_wadd h0 (inInt64_length hl) he,
    wsub_one h0 (inInt64_length hl), clamp_lo, clamp_hi, getRange, getRangeBounds, and_assoc, gt_iff_lt]
  -- both sides now test the same two conditions on the same clamped ends `S`, `E`
  have hS := Int.le_max_left 0 (normIdx v.length s)
  have hE := Int.min_le_left ((v.length : Int) - 1) (max 0 (normIdx v.length e))
  generalize max 0 (normIdx v.length s) = S at hS
  generalize min ((v.length : Int) - 1) (max 0 (normIdx v.length e)) = E at hE
  by_cases h1 : s < 0 ∧ e < 0 ∧ e < s
  · simp only [if_pos h1]
  · by_cases h2 : (v.length : Int) = 0 ∨ E < S
    · simp only [if_neg h1, if_pos h2]
    · simp only [if_neg h1, if_neg h2, slice_succ v S E hS (by omega) (by omega) hl]

/-- a sum or difference of two `int`s that is outside the range wraps around once -/
theorem wrap64_once {i : Int} (h1 : -18446744073709551616 ≤ i) (h2 : i < 18446744073709551616) (h : ¬ inInt64 i = true) :
    wrap64 i = if i < 0 then i + 18446744073709551616 else i - 18446744073709551616 := by
  rw [inInt64_iff] at h
  unfold wrap64
  simp only
  split <;> split <;> omega

theorem incdec_eq (c v : Int) (hc : inInt64 c = true) (hv : inInt64 v = true) :
    incdecNewValue c v = if inInt64 (c + v) = true then .ok (c + v) else .err "increment or decrement would overflow" := by
  rw [inInt64_iff] at hc hv
  by_cases h : inInt64 (c + v) = true
  · -- in range: nothing wraps, and the source's test (the sum moved against the sign of `v`) is false
    simp only [incdecNewValue, wadd, wrap64_id h, if_pos h]
    rw [if_neg (by omega)]
  · -- out of range: the sum has wrapped once, to the other side of `c`
    simp only [incdecNewValue, wadd, wrap64_once (by omega) (by omega) h, if_neg h]
    rw [inInt64_iff] at h
    rw [if_pos (by omega)]

theorem decrby_eq (inc : Int) (h : inInt64 inc = true) :
    decrbyGuard inc = if inc = -9223372036854775808 then .err "decrement would overflow" else .ok (-inc) := by
  rw [inInt64_iff] at h
  unfold decrbyGuard
  split
  · rfl
  · -- every other `int` has its negative among the `int`s
    rw [wneg, wrap64_id (inInt64_iff.2 (by omega))]

/-! ## redis/proto/parser.go: the declared length of a bulk string -/

/-- the limit test precedes the addition, the addition does not wrap, and the number of bytes to read is the model's
`need = n + 2` -/
theorem bulkReadLength_eq (num : Int) (h : inInt64 num = true) (h0 : 0 ≤ num) :
    bulkReadLength num = if num.toNat > maxBulk then .err "errorTooLongBulkString" else .ok ((num.toNat + 2 : Nat) : Int) := by
  rw [inInt64_iff] at h
  unfold bulkReadLength maxBulk
  by_cases hc : (536870912 : Int) < num
  · rw [if_pos hc, if_pos (by omega)]
  · rw [if_neg hc, if_neg (by omega)]
    show Res.ok (wadd num 2) = _
    rw [wadd, wrap64_id (inInt64_iff.2 (by omega))]
    congr 1
    omega

end GoRedis.Translated
