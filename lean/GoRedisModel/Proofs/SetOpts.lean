import GoRedisModel.Model.Exec
namespace GoRedis

/-- An option loop that consumes the elements of one well-formed item and goes on from the state the item leaves consumes a
list of such items and goes on from their fold (SCAN, the sorted-set ranges, the flags of ZADD; the options of SET exclude
one another, `setOpts_items`). -/
theorem foldItems {σ ι ρ : Type} {parse : σ → List Msg → ρ} {msgs : ι → List Msg} {apply : σ → ι → σ} {ok : ι → Prop}
    (step : ∀ st i tail, ok i → parse st (msgs i ++ tail) = parse (apply st i) tail)
    (items : List ι) (h : ∀ i ∈ items, ok i) (st : σ) (tail : List Msg) :
    parse st (items.flatMap msgs ++ tail) = parse (items.foldl apply st) tail := by
  induction items generalizing st with
  | nil => rfl
  | cons i is ih =>
    rw [List.flatMap_cons, List.append_assoc, step st i _ (h i (List.mem_cons_self ..))]
    exact ih (fun j hj => h j (List.mem_cons_of_mem _ hj)) _

/-- the options of SET, as the Redis command reference lists them -/
inductive SetItem where
  | nx | xx | keepttl | get
  | exp (k : ExpKind) (n : Int)
deriving Repr, DecidableEq

def ExpKind.kw : ExpKind → Bytes
  | .ex => b!"EX" | .px => b!"PX" | .exat => b!"EXAT" | .pxat => b!"PXAT"

def SetItem.kw : SetItem → Bytes
  | .nx => b!"NX" | .xx => b!"XX" | .keepttl => b!"KEEPTTL" | .get => b!"GET"
  | .exp k _ => k.kw

/-- an option as a client may write it: the keyword in any letter case, and the token of its integer -/
structure Spelled where
  item : SetItem
  kw : Bytes
  tok : Bytes := []

def Spelled.ok (s : Spelled) : Prop :=
  upper s.kw = s.item.kw ∧ (match s.item with | .exp _ n => atoi s.tok = some n ∧ 1 ≤ n | _ => True)

def Spelled.msgs (s : Spelled) : List Msg :=
  match s.item with
  | .exp _ _ => [B s.kw, B s.tok]
  | _ => [B s.kw]

def SetOpt.apply (o : SetOpt) : SetItem → SetOpt
  | .nx => { o with nx := true }
  | .xx => { o with xx := true }
  | .keepttl => { o with keepttl := true }
  | .get => { o with get := true }
  | .exp k n => { o with expire := some (k, n) }

/-- the option may still be given: NX/XX at most one of the two, every other option at most once,
EX/PX/EXAT/PXAT at most one of the four -/
def SetOpt.admits (o : SetOpt) : SetItem → Bool
  | .nx => !o.nx && !o.xx
  | .xx => !o.nx && !o.xx
  | .keepttl => !o.keepttl
  | .get => !o.get
  | .exp _ _ => o.expire.isNone

def Compat : SetOpt → List SetItem → Prop
  | _, [] => True
  | o, i :: is => o.admits i = true ∧ Compat (o.apply i) is

theorem ExpKind.kw_cases (k : ExpKind) :
    k.kw ≠ b!"NX" ∧ k.kw ≠ b!"XX" ∧ k.kw ≠ b!"KEEPTTL" ∧ k.kw ≠ b!"GET" ∧
    ((if k.kw = b!"EX" then some ExpKind.ex else if k.kw = b!"PX" then some .px
      else if k.kw = b!"EXAT" then some .exat else if k.kw = b!"PXAT" then some .pxat else none) = some k) := by
  cases k <;> decide

/-! `setOpts` on one option, by the kind of its keyword: the two equations everything below rests on -/

theorem setOpts_flag (cmd : Bytes) (o : SetOpt) (i : SetItem) (hi : ∀ k n, i ≠ .exp k n) (kw : Bytes)
    (hu : upper kw = i.kw) (tail : List Msg) :
    setOpts cmd o (B kw :: tail) =
      if o.admits i then setOpts cmd (o.apply i) tail else .error (errInvalid cmd) := by
  cases i with
  | exp k n => exact absurd rfl (hi k n)
  | _ =>
    simp only [SetItem.kw] at hu
    -- the model asks "already given?", `admits` says "may still be given": with the latter written as a negation
    -- the two `if`s differ by their branches being swapped (`ite_not`)
    simp [setOpts, B, msgStr, hu, SetOpt.admits, SetOpt.apply, ← Bool.not_eq_true, ← not_or]

theorem setOpts_expiry (cmd : Bytes) (o : SetOpt) (k : ExpKind) (kw : Bytes) (hu : upper kw = k.kw) (rest : List Msg) :
    setOpts cmd o (B kw :: rest) =
      if o.expire.isNone then
        match rest with
        | [] => .error (errMissing k.kw errEOM)
        | .absent :: _ => .error (errMissing k.kw errEOM)
        | v :: ms' => match msgInt v with
          | .error e => .error e
          | .ok n => if n < 1 then .error (errInvalid cmd) else setOpts cmd { o with expire := some (k, n) } ms'
      else .error (errInvalid cmd) := by
  obtain ⟨h1, h2, h3, h4, h5⟩ := ExpKind.kw_cases k
  simp only [setOpts, B, msgStr, hu, h1, h2, h3, h4, h5, if_false]
  cases o.expire <;> rfl

theorem setOpts_step (cmd : Bytes) (o : SetOpt) (s : Spelled) (hok : s.ok) (ha : o.admits s.item = true) (tail : List Msg) :
    setOpts cmd o (s.msgs ++ tail) = setOpts cmd (o.apply s.item) tail := by
  obtain ⟨item, kw, tok⟩ := s
  obtain ⟨hu, hv⟩ := hok
  cases item with
  | exp k n =>
    have hn : ¬ n < 1 := by have := hv.2; omega
    rw [show (Spelled.mk (.exp k n) kw tok).msgs ++ tail = B kw :: B tok :: tail from rfl,
      (setOpts_expiry cmd o k kw hu _).trans (if_pos ha)]
    simp only [B, msgInt, hv.1, Option.elim, hn, if_false, SetOpt.apply]
  | _ => exact (setOpts_flag cmd o _ (by intro _ _ h; cases h) kw hu tail).trans (if_pos ha)

/-- **SET options in any combination and any order**: a list of well-spelled options in which NX/XX occur
at most once in total, KEEPTTL and GET at most once each and at most one of EX/PX/EXAT/PXAT — whatever
their order and letter case — is decoded into exactly those options. -/
theorem setOpts_items (cmd : Bytes) (o : SetOpt) (ss : List Spelled) (hok : ∀ s ∈ ss, s.ok)
    (hc : Compat o (ss.map Spelled.item)) (tail : List Msg) :
    setOpts cmd o (ss.flatMap Spelled.msgs ++ tail) = setOpts cmd ((ss.map Spelled.item).foldl SetOpt.apply o) tail := by
  induction ss generalizing o with
  | nil => rfl
  | cons s ss ih =>
    rw [List.flatMap_cons, List.append_assoc, setOpts_step cmd o s (hok s List.mem_cons_self) hc.1]
    exact ih _ (fun t ht => hok t (List.mem_cons_of_mem _ ht)) hc.2

theorem setOpts_nil (cmd : Bytes) (o : SetOpt) : setOpts cmd o [] = .ok o := rfl

/-- an option that may no longer be given (NX after XX, a second expiry, a repeated KEEPTTL/GET …) is an error -/
theorem setOpts_conflict (cmd : Bytes) (o : SetOpt) (s : Spelled) (hu : upper s.kw = s.item.kw)
    (ha : o.admits s.item = false) (tail : List Msg) : setOpts cmd o (s.msgs ++ tail) = .error (errInvalid cmd) := by
  obtain ⟨item, kw, tok⟩ := s
  cases item with
  | exp k n => exact (setOpts_expiry cmd o k kw hu _).trans (if_neg (by simp [show o.expire.isNone = false from ha]))
  | _ => exact (setOpts_flag cmd o _ (by intro _ _ h; cases h) kw hu tail).trans (if_neg (by simp [ha]))

/-- an expiry option with a non-positive, non-numeric, null or missing value is an error -/
theorem setOpts_bad_expiry (cmd : Bytes) (o : SetOpt) (k : ExpKind) (kw : Bytes) (hu : upper kw = k.kw)
    (rest : List Msg)
    (hbad : rest = [] ∨ (∃ r, rest = .bulk none :: r) ∨ (∃ tok r, rest = B tok :: r ∧ atoi tok = none) ∨
            (∃ tok r n, rest = B tok :: r ∧ atoi tok = some n ∧ n < 1)) :
    ∃ e, setOpts cmd o (B kw :: rest) = .error e := by
  rw [setOpts_expiry cmd o k kw hu]
  split
  · rcases hbad with rfl | ⟨r, rfl⟩ | ⟨tok, r, rfl, ht⟩ | ⟨tok, r, n, rfl, ht, hn⟩
    · exact ⟨_, rfl⟩
    · exact ⟨_, rfl⟩
    · simp only [B, msgInt, ht, Option.elim]; exact ⟨_, rfl⟩
    · simp only [B, msgInt, ht, Option.elim, hn, if_true]; exact ⟨_, rfl⟩
  · exact ⟨_, rfl⟩

end GoRedis
