import GoRedisModel.Proofs.Interleave
/-! # C13 — connection-scoped state stays with its connection -/
namespace GoRedis

/-- a handler call in a request's block sees the connection state the request started from -/
theorem reqStep_call_view (pf : FloatOracle) (srv : SrvSt) (conn : ConnSt) (m : Msg) (script : List HRes)
    (c : HCall) (v : ConnSt) (h : Ev.hcall c v ∈ (reqStep pf srv conn m script).evs) : v = conn := by
  obtain ⟨c', hc⟩ | ⟨op, hc⟩ := run_events conn _ script _ (reqStep_call_mem pf srv conn m script _ h rfl)
  · cases hc; rfl
  · cases op <;> cases hc

/-- **Non-interference, for every interleaving.**  Several connections, any requests, processed in any
global order: the connection state (selected database, authorization, user name) that a handler call on
connection `i` observes is the result of folding `connStep` over the requests connection `i` *itself* sent
before — it does not depend on the schedule, on what the other connections sent, on the handler's answers
or on the configuration table. -/
theorem C13_noninterference (pf : FloatOracle) (s : Sys) (c0 : Nat → ConnSt)
    (hinit : ∀ i c, s.conns[i]? = some (some c) → c = c0 i)
    (sched : List (Nat × Msg)) (i : Nat) (c : HCall) (v : ConnSt)
    (he : (i, Ev.hcall c v) ∈ (Sys.run pf s sched).2) :
    ∃ pre m0 post, sched = pre ++ (i, m0) :: post ∧ v = (own i pre).foldl (connStep s.srv) (c0 i) := by
  have hinv : NIInv s.srv c0 s [] := ⟨⟨rfl, rfl, rfl⟩, by intro j cj hj; simpa [own] using hinit j cj hj⟩
  obtain ⟨pre, m0, post, srv', script', hs, hev⟩ := Sys.run_event pf s.srv c0 s [] hinv sched i _ he
  exact ⟨pre, m0, post, hs, by simpa using reqStep_call_view pf srv' _ m0 script' c v hev⟩

/-- connection-scoped state starts at its defaults: database 0, authorized iff no password is required -/
theorem C13_defaults (pf : FloatOracle) (srv : SrvSt) (requirePass : Bool) (input : Bytes) (script : List HRes) :
    serve pf srv requirePass input script =
      [Ev.register] ++ serveLoop pf (input.length + 1) srv { authorized := !requirePass, db := 0 } input script ++
        [.deregister, .close] := rfl

/-- a command that is not one of the framework's own six leaves the connection state alone -/
theorem C13_user_commands_keep_state (srv : SrvSt) (conn : ConnSt) (cmd : Bytes) (args : List Msg)
    (h : upper cmd ∉ systemNames) : connAfterCmd srv conn cmd args = conn := by
  rw [connAfterCmd, execSystem_eq_none.mpr h]; exact ite_self _

/-- the selected database changes only through the connection's own SELECT with an integer argument, on an
authorized connection -/
theorem C13_select (srv : SrvSt) (conn : ConnSt) (c tok : Bytes) (n : Int) (rest : List Msg)
    (hh : srv.hasHandler = true) (ha : conn.authorized = true) (hu : upper c = b!"SELECT") (ht : atoi tok = some n) :
    connAfterCmd srv conn c (B tok :: rest) = { conn with db := n } := by
  simp [connAfterCmd_eq, hh, ha, hu, sysConn, nextIntegerRaw, B, msgInt, ht, Option.elim]

/-- a SELECT that fails (not an integer) or is refused (not authorized) leaves the database as it was -/
theorem C13_select_failed (srv : SrvSt) (conn : ConnSt) (c tok : Bytes) (rest : List Msg)
    (hu : upper c = b!"SELECT") (ht : atoi tok = none ∨ conn.authorized = false) :
    (connAfterCmd srv conn c (B tok :: rest)).db = conn.db := by
  rw [connAfterCmd_eq, hu]
  obtain ht | ht := ht
  · simp [sysConn, nextIntegerRaw, B, msgInt, ht, Option.elim]
  · simp [ht]

/-! ## Non-vacuity: two connections, interleaved -/
def twoConns : Sys := { srv := {}, conns := [some { authorized := true }, some { authorized := true }], script := [] }
def sel (n : Bytes) : Msg := .arr [B b!"SELECT", B n]
def getK : Msg := .arr [B b!"GET", B b!"k"]

/-- connection 0 selects database 3, connection 1 database 5, interleaved with GETs: each GET sees its own
connection's database -/
example : ((Sys.run (fun _ => none) twoConns [(0, sel b!"3"), (1, sel b!"5"), (0, getK), (1, getK), (0, getK)]).2.filterMap
    fun p => match p.2 with | .hcall _ v => some (p.1, v.db) | _ => none) = [(0, 3), (1, 5), (0, 3)] := by decide +kernel

end GoRedis
