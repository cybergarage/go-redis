import GoRedisModel.Proofs.Request
import GoRedisModel.Proofs.Frames
import GoRedisModel.Proofs.Total
/-! The connection loop is `steps` over the values of its input (`serve_eq_steps`): what holds of the loop on every byte
stream is proved of `steps`, by induction over a list of values (`values input` holds no nil pointer, which `steps_sane` needs). -/
namespace GoRedis

/-- The request-level semantics of the connection loop: what it does for a list of request values that
have already been parsed, followed by the end of the stream. -/
def steps (pf : FloatOracle) : SrvSt → ConnSt → List Msg → List HRes → List Ev
  | _, _, [], _ => [.rootStart, .spanStart b!"parse", .spanFinish, .topFinish]
  | srv, conn, m :: ms, script =>
    let r := reqStep pf srv conn m script
    [Ev.rootStart, .spanStart b!"parse", .spanFinish] ++ (r.evs ++ match r.next with
      | none => []
      | some (conn', srv') => steps pf srv' conn' ms r.script)

/-- the requests of a byte stream: the values the loop reads from it, one after the other, up to the first read that
does not yield one (end of stream or protocol error) -/
def values (input : Bytes) : List Msg :=
  match h : parse (input.length + 1) input with
  | .ok m rest =>
    have : rest.length < input.length := parse_rest_lt _ _ _ _ h
    m :: values rest
  | _ => []
termination_by input.length
decreasing_by assumption

theorem values_ok {input : Bytes} {m : Msg} {rest : Bytes} (h : parse (input.length + 1) input = .ok m rest) :
    values input = m :: values rest := by
  rw [values]; split
  · rename_i h'; cases h.symm.trans h'; rfl
  · rename_i hn; exact absurd h (hn _ _)

theorem values_stop {input : Bytes} (h : ∀ m rest, parse (input.length + 1) input ≠ .ok m rest) :
    values input = [] := by
  rw [values]; split
  · exact absurd ‹_› (h _ _)
  · rfl

theorem values_noAbsent (input : Bytes) : ∀ m ∈ values input, noAbsent m = true := by
  induction input using values.induct with
  | case1 input m rest hp _ ih => rw [values_ok hp]; exact List.forall_mem_cons.mpr ⟨parse_noAbsent _ _ _ _ hp, ih⟩
  | case2 input h => rw [values_stop h]; nofun

/-- **The byte-level loop is the request-level semantics, on every input**: with fuel above the length of the input the
loop does, request after request, exactly what `steps` says for the values of the input — in particular it never runs
out of fuel. -/
theorem serveLoop_eq_steps (pf : FloatOracle) (n : Nat) (input : Bytes) (hn : input.length < n)
    (srv : SrvSt) (conn : ConnSt) (script : List HRes) :
    serveLoop pf n srv conn input script = steps pf srv conn (values input) script := by
  induction n generalizing srv conn input script with
  | zero => omega
  | succ n ih =>
    unfold serveLoop
    cases hp : parse (input.length + 1) input with
    | ok m rest =>
      -- a value consumes at least one byte, so the fuel that is left is above what is left of the input
      have := parse_rest_lt _ _ _ _ hp
      rw [values_ok hp, steps]
      simp only [List.cons_append, List.nil_append, List.cons.injEq, true_and]
      congr 1
      cases (reqStep pf srv conn m script).next with
      | none => rfl
      | some p => exact ih rest (by omega) _ _ _
    | _ => rw [values_stop (by simp [hp])]; rfl

theorem serve_eq_steps (pf : FloatOracle) (srv : SrvSt) (requirePass : Bool) (input : Bytes) (script : List HRes) :
    serve pf srv requirePass input script =
      [Ev.register] ++ steps pf srv { authorized := !requirePass } (values input) script ++ [.deregister, .close] := by
  rw [serve, serveLoop_eq_steps pf _ input (Nat.lt_succ_self _)]

theorem values_encs_append (ms : List Msg) (hw : wfs ms) (t : Bytes) : values (encs ms ++ t) = ms ++ values t := by
  induction ms with
  | nil => rfl
  | cons m ms ih =>
    have hd := depth_le_length m
    rw [encs, List.append_assoc, values_ok (parse_enc m hw.1 _ (by simp; omega) _), ih hw.2]
    rfl

theorem values_encs (ms : List Msg) (hw : wfs ms) : values (encs ms) = ms := by
  have := values_encs_append ms hw []
  rwa [values_stop (input := []) nofun, List.append_nil, List.append_nil] at this

/-- **What one request shows**: unless it ends in a recovered panic, its block contains exactly one write, one complete
frame (the serialization of its outcome); if it does, it has written nothing and the connection ends. -/
theorem reqStep_reply_or_crash (pf : FloatOracle) (srv : SrvSt) (conn : ConnSt) (m : Msg) (script : List HRes) :
    (crashedIn (reqStep pf srv conn m script).evs = false →
      ∃ bs, writesOf (reqStep pf srv conn m script).evs = [bs] ∧ Frame bs) ∧
    (crashedIn (reqStep pf srv conn m script).evs = true →
      writesOf (reqStep pf srv conn m script).evs = [] ∧ (reqStep pf srv conn m script).next = none) := by
  -- the executor's events hold neither a write nor a crash: those of the block are the loop's own, behind them
  obtain ⟨hw, hc⟩ := run_quiet conn (handleMessage pf srv conn m) script
  cases reqStep_cases pf srv conn m script with
  | panic _ h | unserializable _ _ _ _ _ h => simp [h, writesOf_append, crashedIn_append, hw, hc, writesOf, crashedIn]
  | replied out _ _ bs _ hb h =>
    simpa [h, writesOf_append, crashedIn_append, hw, hc, writesOf, crashedIn, replyEvs] using replyBytes_frame out bs hb

/-- the replies of a pipeline, request by request, in request order, up to the request that ends the
connection -/
def repliesOf (pf : FloatOracle) : SrvSt → ConnSt → List Msg → List HRes → List Bytes
  | _, _, [], _ => []
  | srv, conn, m :: ms, script =>
    let r := reqStep pf srv conn m script
    writesOf r.evs ++ match r.next with
      | none => []
      | some (conn', srv') => repliesOf pf srv' conn' ms r.script

theorem steps_writes (pf : FloatOracle) (srv : SrvSt) (conn : ConnSt) (ms : List Msg) (script : List HRes) :
    writesOf (steps pf srv conn ms script) = repliesOf pf srv conn ms script := by
  induction ms generalizing srv conn script with
  | nil => simp [steps, repliesOf, writesOf]
  | cons m ms ih =>
    simp only [steps, repliesOf, List.cons_append, List.nil_append, writesOf, writesOf_append]
    congr 1
    cases (reqStep pf srv conn m script).next with
    | none => rfl
    | some p => obtain ⟨c', s'⟩ := p; exact ih _ _ _

/-- **In order, on every input**: the writes of a connection are the replies to the values of its input, in their order -/
theorem serve_writes (pf : FloatOracle) (srv : SrvSt) (requirePass : Bool) (input : Bytes) (script : List HRes) :
    writesOf (serve pf srv requirePass input script) =
      repliesOf pf srv { authorized := !requirePass } (values input) script := by
  simp [serve_eq_steps, writesOf_append, writesOf, steps_writes]

theorem repliesOf_frames (pf : FloatOracle) (srv : SrvSt) (conn : ConnSt) (ms : List Msg) (script : List HRes) :
    ∀ bs ∈ repliesOf pf srv conn ms script, Frame bs := by
  induction ms generalizing srv conn script with
  | nil => nofun
  | cons m ms ih =>
    intro bs hbs
    simp only [repliesOf, List.mem_append] at hbs
    obtain hbs | hbs := hbs
    · cases hc : crashedIn (reqStep pf srv conn m script).evs with
      | false =>
        obtain ⟨b, hw, hf⟩ := (reqStep_reply_or_crash pf srv conn m script).1 hc
        rw [hw] at hbs; rwa [List.mem_singleton.mp hbs]
      | true => rw [((reqStep_reply_or_crash pf srv conn m script).2 hc).1] at hbs; cases hbs
    · split at hbs
      · cases hbs
      · exact ih _ _ _ bs hbs

/-- every request of the pipeline is answered and the connection stays open (no QUIT, no crash) -/
def Alive (pf : FloatOracle) : SrvSt → ConnSt → List Msg → List HRes → Prop
  | _, _, [], _ => True
  | srv, conn, m :: ms, script =>
    let r := reqStep pf srv conn m script
    match r.next with
    | none => False
    | some (conn', srv') => Alive pf srv' conn' ms r.script

end GoRedis
