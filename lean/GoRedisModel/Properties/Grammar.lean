import GoRedisModel.Proofs.Dispatch
/-! The command surface as an independent grammar (written from the Redis command reference, DESIGN.md
Appendix C), shared by C05 and C10.  A `Form` says which positional arguments a command takes and which
handler operation it must reach with them. -/
namespace GoRedis

inductive Form where
  | s (mk : Bytes → HCall)                           -- `S`
  | ss (mk : Bytes → Bytes → HCall)                  -- `S S`
  | sss (mk : Bytes → Bytes → Bytes → HCall)         -- `S S S`
  | si (mk : Bytes → Int → HCall)                    -- `S I`
  | sii (mk : Bytes → Int → Int → HCall)             -- `S I I`
  | sfs (mk : Bytes → UInt64 → Bytes → HCall)        -- `S F S`
  | l (mk : List Bytes → HCall)                      -- `S+`
  | sl (mk : Bytes → List Bytes → HCall)             -- `S S+`

structure Row where
  name : Bytes
  form : Form

/-- the commands whose whole grammar is positional (the ones with options are treated separately) -/
def grammar : List Row := [
  ⟨b!"DEL", .l .del⟩, ⟨b!"EXISTS", .l .exists_⟩,
  ⟨b!"KEYS", .s .keys⟩, ⟨b!"TYPE", .s .type_⟩, ⟨b!"TTL", .s .ttl⟩,
  ⟨b!"RENAME", .ss fun k n => .rename k n false⟩, ⟨b!"RENAMENX", .ss fun k n => .rename k n true⟩,
  ⟨b!"GET", .s .get⟩,
  ⟨b!"GETSET", .ss fun k v => .set k v { get := true }⟩, ⟨b!"SETNX", .ss fun k v => .set k v { nx := true }⟩,
  ⟨b!"HDEL", .sl .hdel⟩, ⟨b!"HGET", .ss .hget⟩, ⟨b!"HGETALL", .s .hgetall⟩,
  ⟨b!"HSET", .sss fun h f v => .hset h f v false⟩, ⟨b!"HSETNX", .sss fun h f v => .hset h f v true⟩,
  ⟨b!"LINDEX", .si .lindex⟩, ⟨b!"LLEN", .s .llen⟩, ⟨b!"LRANGE", .sii .lrange⟩,
  ⟨b!"LPUSH", .sl fun k es => .lpush k es false⟩, ⟨b!"LPUSHX", .sl fun k es => .lpush k es true⟩,
  ⟨b!"RPUSH", .sl fun k es => .rpush k es false⟩, ⟨b!"RPUSHX", .sl fun k es => .rpush k es true⟩,
  ⟨b!"SADD", .sl .sadd⟩, ⟨b!"SMEMBERS", .s .smembers⟩, ⟨b!"SREM", .sl .srem⟩,
  ⟨b!"ZINCRBY", .sfs .zincrby⟩, ⟨b!"ZREM", .sl .zrem⟩, ⟨b!"ZSCORE", .ss .zscore⟩]

/-- A request reaches the handler: on an authorized connection, under any spelling of the command name,
with any surplus trailing arguments, the command's whole effect is its span, exactly one handler call with
exactly the decoded arguments, and the handler's result as the reply. -/
def Row.Dispatches (pf : FloatOracle) (row : Row) : Prop :=
  ∀ (srv : SrvSt) (conn : ConnSt) (c : Bytes), srv.hasHandler = true → conn.authorized = true → upper c = row.name →
  match row.form with
  | .s f => ∀ k rest, executeCommand pf srv conn c (B k :: rest) = singleCall row.name (f k) conn srv
  | .ss f => ∀ a b rest, executeCommand pf srv conn c (B a :: B b :: rest) = singleCall row.name (f a b) conn srv
  | .sss f => ∀ a b d rest,
      executeCommand pf srv conn c (B a :: B b :: B d :: rest) = singleCall row.name (f a b d) conn srv
  | .si f => ∀ a tok i rest, atoi tok = some i →
      executeCommand pf srv conn c (B a :: B tok :: rest) = singleCall row.name (f a i) conn srv
  | .sii f => ∀ a t1 t2 i j rest, atoi t1 = some i → atoi t2 = some j →
      executeCommand pf srv conn c (B a :: B t1 :: B t2 :: rest) = singleCall row.name (f a i j) conn srv
  | .sfs f => ∀ a tok v d rest, pf tok = some v →
      executeCommand pf srv conn c (B a :: B tok :: B d :: rest) = singleCall row.name (f a v d) conn srv
  | .l f => ∀ b l, executeCommand pf srv conn c ((b :: l).map B) = singleCall row.name (f (b :: l)) conn srv
  | .sl f => ∀ a b l, executeCommand pf srv conn c (B a :: (b :: l).map B) = singleCall row.name (f a (b :: l)) conn srv

/-- A request is rejected: some error, the command's span, no handler call, state unchanged. -/
def RejectedBy (pf : FloatOracle) (srv : SrvSt) (conn : ConnSt) (c : Bytes) (name : Bytes) (args : List Msg) : Prop :=
  ∃ e, executeCommand pf srv conn c args = rejected name e conn srv

/-- Every ill-formed variant of the positional grammar is rejected: each required position omitted, each
position sent as a null bulk, each numeric position holding a token that is not a 64-bit integer / not a
float, an empty list, a null inside a list. -/
def Row.RejectsIllFormed (pf : FloatOracle) (row : Row) : Prop :=
  ∀ (srv : SrvSt) (conn : ConnSt) (c : Bytes), srv.hasHandler = true → conn.authorized = true → upper c = row.name →
  let rej := RejectedBy pf srv conn c row.name
  match row.form with
  | .s _ => rej [] ∧ ∀ rest, rej (.bulk none :: rest)
  | .ss _ => rej [] ∧ (∀ a, rej [B a]) ∧ (∀ rest, rej (.bulk none :: rest)) ∧ (∀ a rest, rej (B a :: .bulk none :: rest))
  | .sss _ => rej [] ∧ (∀ a, rej [B a]) ∧ (∀ a b, rej [B a, B b]) ∧ (∀ rest, rej (.bulk none :: rest)) ∧
      (∀ a rest, rej (B a :: .bulk none :: rest)) ∧ (∀ a b rest, rej (B a :: B b :: .bulk none :: rest))
  | .si _ => rej [] ∧ (∀ a, rej [B a]) ∧ (∀ rest, rej (.bulk none :: rest)) ∧ (∀ a rest, rej (B a :: .bulk none :: rest)) ∧
      (∀ a tok rest, atoi tok = none → rej (B a :: B tok :: rest))
  | .sii _ => rej [] ∧ (∀ a, rej [B a]) ∧ (∀ a t1 i, atoi t1 = some i → rej [B a, B t1]) ∧
      (∀ a rest, rej (B a :: .bulk none :: rest)) ∧
      (∀ a t1 i rest, atoi t1 = some i → rej (B a :: B t1 :: .bulk none :: rest)) ∧
      (∀ a tok rest, atoi tok = none → rej (B a :: B tok :: rest)) ∧
      (∀ a t1 i tok rest, atoi t1 = some i → atoi tok = none → rej (B a :: B t1 :: B tok :: rest))
  | .sfs _ => (∀ a, rej [B a]) ∧ (∀ a tok v, pf tok = some v → rej [B a, B tok]) ∧
      (∀ a rest, rej (B a :: .bulk none :: rest)) ∧ (∀ a tok rest, pf tok = none → rej (B a :: B tok :: rest))
  | .l _ => rej [] ∧ ∀ (l : List Bytes) rest, rej (l.map B ++ .bulk none :: rest)
  | .sl _ => rej [] ∧ (∀ a, rej [B a]) ∧ ∀ a (l : List Bytes) rest, rej (B a :: (l.map B ++ .bulk none :: rest))

end GoRedis
