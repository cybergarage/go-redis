import GoRedisModel.Model.Wire
import GoRedisModel.Model.ParserImpl
import GoRedisModel.Model.Show
import GoRedisModel.Model.Sys
import GoRedisModel.Model.RefStore
import GoRedisModel.Model.Lifecycle
import GoRedisModel.Model.Discipline
import GoRedisModel.Model.Lin
/-! Line-protocol driver: one case per input line, one canonical result per output line.
Built as the core-only executable `modeldriver`; the definitions it runs are the ones the theorems are about. -/
open GoRedis

/-- run the chunked parser to the end of the stream: "v <tree> ; v <tree> ; eof|err|panic|limit" -/
def runChunks : Nat → Nat → Nat → Reader → List String → List String
  | 0, _, _, _, acc => (acc.reverse ++ ["fuel"])
  | _, 0, _, _, acc => (acc.reverse ++ ["limit"])
  | k+1, lim+1, f, r, acc =>
    match inext f r with
    | .ok m r' =>
      if lim = 0 then (s!"v {showMsg m}" :: acc).reverse ++ ["limit"]
      else runChunks k lim f r' (s!"v {showMsg m}" :: acc)
    | .eof => acc.reverse ++ ["eof"]
    | .err => acc.reverse ++ ["err"]
    | .panic => acc.reverse ++ ["panic"]
    | .fuel => acc.reverse ++ ["fuel"]

/-- the first value of a stream as (payload length, kind) and how the stream ended behind it -/
def inextAllShow (chunks : List Bytes) : Option (Nat × Char) × String :=
  let r : Reader := ⟨chunks⟩
  let f := r.rest.length + 1
  let endOf : IRes → String
    | .ok _ _ => "limit" | .eof => "eof" | .err => "err" | .panic => "panic" | .fuel => "fuel"
  match inext f r with
  | .ok m r' =>
    let d : Nat × Char := match m with
      | .bulk (some p) => (p.length, 'b')
      | .bulk none => (0, 'n')
      | .line _ p => (p.length, 'l')
      | _ => (0, 'a')
    (some d, endOf (inext f r'))
  | e => (none, endOf e)

def streamOutcome (chunks : List Bytes) (maxValues : Nat) : String :=
  let r : Reader := ⟨chunks⟩
  let n := r.rest.length
  String.intercalate " ; " (runChunks (n + 2) maxValues (n + 1) r [])

def afterBar : List String → List String
  | [] => []
  | "|" :: ts => ts
  | _ :: ts => afterBar ts


/-- split a token list at "|" -/
def splitBar : List String → List (List String)
  | [] => [[]]
  | t :: ts =>
    match splitBar ts with
    | [] => [[t]]
    | s :: ss => if t == "|" then [] :: s :: ss else (t :: s) :: ss

def splitSemi : List String → List (List String)
  | [] => [[]]
  | t :: ts =>
    match splitSemi ts with
    | [] => [[t]]
    | s :: ss => if t == ";" then [] :: s :: ss else (t :: s) :: ss

def parseResult (ts : List String) : Option HRes :=
  match ts with
  | "c" :: _ :: rest => parseResult rest     -- an expected-call annotation (used by the harness' double only)
  | "r" :: rest => (parseMsgToks rest).map fun (m, _) => { msg := m }
  | ["e", h] => some { err := some (unhex h) }
  | "re" :: h :: rest => (parseMsgToks rest).map fun (m, _) => { msg := m, err := some (unhex h) }
  | _ => none

def parseScript (ts : List String) : List HRes :=
  (splitSemi ts).filterMap fun r => if r.isEmpty then none else parseResult r

/-- float table "f <tokhex>=<bits16>" entries; tokens absent from the table do not parse as floats -/
def parseFloatTable (ts : List String) : List (Bytes × UInt64) :=
  ts.filterMap fun t =>
    match t.splitOn "=" with
    | [k, v] => some (unhex k, (unhexChars v.toList).foldl (fun acc b => acc * 256 + b.toUInt64) 0)
    | _ => none

structure ServeCase where
  pw : Option Bytes := none
  noHandler : Bool := false
  trace : Bool := false
  blk : Bool := false
  app : List Bytes := []
  segs : List Bytes := []
  script : List HRes := []
  floats : List (Bytes × UInt64) := []

def parseServeCase (ts : List String) : ServeCase :=
  let secs := splitBar ts
  let cfg := secs.headD []
  let c : ServeCase := cfg.foldl (fun c t =>
    if t.startsWith "pw=" then { c with pw := some (unhex (t.drop 3).toString) }
    else if t == "nohandler" then { c with noHandler := true }
    else if t == "trace" then { c with trace := true }
    else if t == "blk" then { c with blk := true }
    else if t.startsWith "app=" then { c with app := ((t.drop 4).toString.splitOn ",").map unhex }
    else c) {}
  { c with segs := (secs.getD 1 []).map unhex, script := parseScript (secs.getD 2 []),
           floats := parseFloatTable (secs.getD 3 []) }

def countWr : List Ev → Nat
  | [] => 0
  | .wr _ :: es => countWr es + 1
  | _ :: es => countWr es

def countRoot : List Ev → Nat
  | [] => 0
  | .rootStart :: es => countRoot es + 1
  | _ :: es => countRoot es

def runServeCase (c : ServeCase) : String :=
  let pf : FloatOracle := fun tok => c.floats.lookup tok
  let srv : SrvSt := { authPw := c.pw, hasHandler := !c.noHandler, appGet := c.app,
                       config := (match c.pw with | some p => [(b!"requirepass", p)] | none => []) ++ [(b!"port", b!"6379")] }
  let input := c.segs.flatten
  let evs := serve pf srv c.pw.isSome input c.script
  let toks := showTrace c.trace evs {}
  let blk := if c.blk then
      let ends := valueEnds (input.length + 1) input 0
      let served := countWr evs
      let quit := countRoot evs == served
      " # B " ++ String.intercalate " " ((blockCounts ends served quit (cumulative (c.segs.map List.length) 0)).map toString)
    else ""
  String.intercalate " " toks ++ blk

/-- pairs "<conn id> <hex request>" -/
def parseSchedule : List String → List (Nat × Bytes)
  | i :: h :: rest => (i.toNat?.getD 0, unhex h) :: parseSchedule rest
  | _ => []

def showSysEv (i : Nat) : Ev → Option String
  | .wr bs => some s!"c{i}:wr:{canonReply bs}"
  | .hcall c v => some s!"c{i}:hc:{showCall c}@{v.db},{b01 v.authorized},own"
  | _ => none

/-- run a schedule request by request, rendering the tagged events; a connection that ends is closed -/
def runSchedule (pf : FloatOracle) : Sys → List (Nat × Bytes) → List String
  | _, [] => []
  | s, (i, raw) :: rest =>
    match parse (raw.length + 1) raw with
    | .ok m _ =>
      let alive := match s.conns[i]? with | some (some _) => true | _ => false
      let (s1, evs) := s.step pf i m
      let ended := alive && (match s1.conns[i]? with | some (some _) => false | _ => true)
      evs.filterMap (showSysEv i) ++ (if ended then [s!"c{i}:close"] else []) ++ runSchedule pf s1 rest
    | _ => runSchedule pf s rest

def runSysCase (ts : List String) : String :=
  let secs := splitBar ts
  let cfg := secs.headD []
  let n := (cfg.filterMap fun t => if t.startsWith "n=" then (t.drop 2).toString.toNat? else none).headD 1
  let pw := (cfg.filterMap fun t => if t.startsWith "pw=" then some (unhex (t.drop 3).toString) else none).head?
  let script := parseScript (secs.getD 1 [])
  let floats := parseFloatTable (secs.getD 2 [])
  let pf : FloatOracle := fun tok => floats.lookup tok
  let srv : SrvSt := { authPw := pw, config := (match pw with | some p => [(b!"requirepass", p)] | none => []) ++ [(b!"port", b!"6379")] }
  let s : Sys := { srv := srv, conns := List.replicate n (some { authorized := !pw.isSome }), script := script }
  String.intercalate " " (runSchedule pf s (parseSchedule (secs.getD 3 [])))

def globAlphabet : Bytes := b!"ab*?.+(|$"

/-- all words over the alphabet with length ≤ n, shortest first, in the harness' order -/
def wordsUpTo (alpha : Bytes) : Nat → List Bytes × List Bytes
  | 0 => ([[]], [[]])
  | n+1 =>
    let (all, frontier) := wordsUpTo alpha n
    let next := frontier.flatMap fun w => alpha.map fun c => w ++ [c]
    (all ++ next, next)

def packBits (bits : List Bool) : String :=
  let padded := bits ++ List.replicate ((4 - bits.length % 4) % 4) false
  let rec go : List Bool → List Char
    | a :: b :: c :: d :: rest =>
      hexDigit ((if a then 8 else 0) + (if b then 4 else 0) + (if c then 2 else 0) + (if d then 1 else 0)) :: go rest
    | _ => []
  toString padded.length ++ ":" ++ String.ofList (go padded)

def digitsNat (d : Bytes) : Option Nat :=
  if d.isEmpty then none else d.foldl (fun acc b => acc.bind fun v => if 48 ≤ b ∧ b ≤ 57 then some (v * 10 + (b.toNat - 48)) else none) (some 0)

/-- score tokens of the exactly representable pool: `-?digits(.5)?`, `inf`, `+inf`, `-inf` -/
def parseScoreTok (t : Bytes) : Option Bound :=
  if t = b!"inf" || t = b!"+inf" then some .posInf
  else if t = b!"-inf" then some .negInf
  else
    let (neg, body) := match t with | 45 :: r => (true, r) | r => (false, r)
    let (ip, half) := if body.length ≥ 2 ∧ body.drop (body.length - 2) = b!".5" then (body.take (body.length - 2), true) else (body, false)
    match digitsNat ip with
    | none => none
    | some v => let h : Int := (v : Int) * 2 + (if half then 1 else 0); some (.fin (if neg then -h else h))

def runXServe (ts : List String) : String :=
  let secs := splitBar ts
  let stream := (secs.getD 1 []).map unhex |>.flatten
  let floats := parseFloatTable (secs.getD 2 [])
  let pf : FloatOracle := fun tok => floats.lookup tok
  let sc : ScoreTable := fun bits => (floats.find? fun p => p.2 == bits).bind fun p => parseScoreTok p.1
  let evs := serveLoopH pf (refHandle sc) (stream.length + 1) { config := [(b!"port", b!"6379")] } { authorized := true } stream ([] : Store)
  String.intercalate " " ((showTrace false (evs ++ [.close]) {}).filter fun t => !t.startsWith "hc:")

/-- `conc4 | preload stream | floats | conn 0 stream | conn 1 stream ...`: the preload is executed first; then every
connection's read-only requests are answered from the same store, whatever the other connections do.  Output: per
connection the exact bytes of its replies. -/
def runConc4 (ts : List String) : String :=
  let secs := splitBar ts
  let pre := ((secs.getD 1 []).map unhex).flatten
  let floats := parseFloatTable (secs.getD 2 [])
  let pf : FloatOracle := fun tok => floats.lookup tok
  let sc : ScoreTable := fun bits => (floats.find? fun p => p.2 == bits).bind fun p => parseScoreTok p.1
  let writes (stream : Bytes) : List Bytes :=
    (serveLoopH pf (refHandle sc) (stream.length + 1) { config := [(b!"port", b!"6379")] } { authorized := true } stream ([] : Store)).filterMap
      fun e => match e with | .wr bs => some bs | _ => none
  let nPre := (writes pre).length
  let conns := secs.drop 3
  let outs := conns.zipIdx.map fun (toks, i) =>
    let stream := pre ++ (toks.map unhex).flatten
    s!"c{i}:{hex ((writes stream).drop nPre).flatten}"
  String.intercalate " " outs

def showRes (r : HRes) : String :=
  match r.err with
  | some t => (match r.msg with
      | .absent => s!"e {hex t}"
      | m => s!"re {hex t} {showMsg m}")
  | none => s!"r {showMsg r.msg}"

/-- `prep c12prog | <stream> | <floats> | <extra>`: run the program against the reference store and emit the
`serve` case whose script is the sequence of results the reference store gave -/
def prepC12 (ts : List String) : String :=
  let secs := splitBar ts
  let streamToks := secs.getD 1 []
  let stream := (streamToks.map unhex).flatten
  let floats := parseFloatTable (secs.getD 2 [])
  let pf : FloatOracle := fun tok => floats.lookup tok
  let sc : ScoreTable := fun bits => (floats.find? fun p => p.2 == bits).bind fun p => parseScoreTok p.1
  let h : HCall → (Store × List (HCall × HRes)) → HRes × (Store × List (HCall × HRes)) := fun c st =>
    let (r, s') := refHandle sc c st.1
    (r, (s', (c, r) :: st.2))
  let run := serveLoopFinal pf h (stream.length + 1) { config := [(b!"port", b!"6379")] } { authorized := true } stream (([] : Store), ([] : List (HCall × HRes)))
  let script := String.intercalate " ; " (run.2.reverse.map fun p => s!"c {showCall p.1} {showRes p.2}")
  s!"serve - | {String.intercalate " " streamToks} | {script} | {String.intercalate " " (secs.getD 2 [])} | {String.intercalate " " (secs.getD 3 [])}"

def runLifeCase (ts : List String) : String :=
  let secs := splitBar ts
  let cfgToks := secs.headD []
  let cfg : LifeCfg := cfgToks.foldl (fun c t =>
    if t == "plain" then { c with plain := true }
    else if t == "tls" || t == "tlsfiles" then { c with tls := true }
    else if t.startsWith "cn=" then { c with cn := some (t.drop 3).toString }
    else if t.startsWith "pw=" then { c with pw := true }
    else c) {}
  let acts := secs.getD 1 []
  -- the domain of portoff / cfgport: until the port is restored only Stop and observations occur
  let inDomain : Bool := (acts.foldl (fun (st : Bool × Bool) a =>
      let kind := (a.splitOn ":").headD ""
      if kind == "portoff" || kind == "cfgport" then (st.1, true)
      else if kind == "porton" then (st.1, false)
      else if st.2 && !(kind == "stop" || kind == "obs" || kind == "alive" || kind == "cclose") then (false, st.2)
      else st) (true, false)).1
  if !inDomain then "out-of-domain" else
  String.intercalate " " (lifeRun cfg {} acts)

def fnvAdd (h : UInt64) (bs : Bytes) : UInt64 := bs.foldl (fun h b => (h ^^^ b.toUInt64) * 1099511628211) h

/-- what matters of one serialization: its first 24 bytes, its length (decimal), its last two bytes -/
def enclenDigest (h : UInt64) (b : Bytes) : UInt64 :=
  let n := b.length
  let h := fnvAdd h (b.take 24)
  let h := fnvAdd h (toString n).toUTF8.toList
  if n ≥ 2 then fnvAdd h (b.drop (n - 2)) else h

def handleLine (toks : List String) : String :=
  match toks with
  | "enc" :: ts =>
    match parseMsgToks ts with
    | some (m, _) => match encGo m with
      | some b => hex b
      | none => "panic"
    | none => "bad-case"
  | ["enclen", lo, hi] =>
    match lo.toNat?, hi.toNat? with
    | some lo, some hi =>
      let digest := (List.range (hi - lo)).foldl (fun h k =>
        let n := lo + k
        let p : Bytes := (List.range n).map fun i => UInt8.ofNat ((i * 7 + n) % 256)
        let b := enc (.bulk (some p))
        let ab := enc (.arr [.bulk (some p), .line .int b!"7"])
        enclenDigest (enclenDigest h b) ab) (14695981039346656037 : UInt64)
      s!"digest={hex16 digest}"
    | _, _ => "bad-case"
  | "rt" :: ts =>
    match parseMsgToks ts with
    | some (m, _) =>
      match encGo m with
      | none => "panic"
      | some b =>
        let back := streamOutcome [b ++ b!":7\r\n"] 4
        let re := match parse (b.length + 1) b with
          | .ok m' _ => (match encGo m' with | some b' => hex b' | none => "panic")
          | _ => "none"
        s!"enc={hex b} back={back} reenc={re}"
    | none => "bad-case"
  | "serve" :: ts => runServeCase (parseServeCase ts)
  | "sys" :: ts => runSysCase ts
  | "xserve" :: ts => runXServe ts
  | "sserve" :: ts => runXServe ts
  | "conc4" :: ts => runConc4 ts
  -- KEYS p and SCAN 0 MATCH p select, from the stored keys, exactly the keys the glob matches (both the same)
  | "keyscan" :: ph :: ks =>
    let p := unhex ph
    let bits := String.ofList (ks.map fun k => if globMatch p (unhex k) then '1' else '0')
    s!"keys={bits} scan={bits}"
  -- every SCAN call filters with the pattern it carries itself (`scanOpts`: the regex handed to the handler is compiled
  -- from this call's MATCH argument, whatever the cursor): what a continued call returns is selected by its own pattern
  | "scanswitch" :: _ => "sound"
  -- every request's span block is balanced whatever the other connections do (`C20_balanced` is per connection; the
  -- dispatch lock adds no span)
  | "conc20" :: _ => "balanced"
  | "life" :: ts => runLifeCase ts
  | "race" :: _ => racePrediction
  -- a connection blocked in a write is its own goroutine's business: every other connection is served
  -- (`connStep_static`, `C08_per_connection`); blocking itself is runtime behaviour outside the model
  | "stallw" :: _ => "witness-served"
  | "cutsock" :: _ => "answered-all released"
  | "stopinflight" :: _ => "state-kept"
  | "pollchurn" :: _ => "released"
  | "flood07" :: _ => "witness-served"
  | "massdisc" :: _ => "witness-served"
  | "cfgstorm" :: _ => "witness-served"
  -- a crash is contained in its connection (`C07_panic_is_contained`, `C08_per_connection`)
  | "panicw" :: _ => "witness-served"
  -- a reply is one write of one complete frame (`C04_every_write_is_a_frame`); how long the transport takes to
  -- deliver it is not the loop's business
  | "stallr" :: _ => "replies-complete"
  -- every request of every connection is answered (`C03_one_reply_each` per connection; connections are served by
  -- independent loops, `C13_noninterference`)
  | "conc3" :: _ => "answered"
  | "linhist" :: ts =>
    let ops : List (Lin.Op Bytes Bytes) := ts.filterMap fun t =>
      match t.splitOn ":" with
      | [c, i, r, q, p] => some { client := c.toNat!, inv := i.toNat!, res := r.toNat!, cmd := unhex q, out := unhex p }
      | _ => none
    if linCheck ops then "linearizable" else "not-linearizable"
  | "prep" :: "c12prog" :: ts => prepC12 ts
  | ["globall", n, ph] =>
    let pat := unhex ph
    packBits (((wordsUpTo globAlphabet (n.toNat?.getD 0)).1).map (globMatch pat))
  | "glob" :: ph :: ks =>
    let pat := unhex ph
    packBits (ks.map fun k => globMatch pat (unhex k))
  | "chunks" :: ts => streamOutcome ((afterBar ts).map unhex) 1048576
  -- the last bytes delivered together with io.EOF: the same stream, the same values (the end of the stream is the end
  -- of the stream however it is announced)
  | "chunkse" :: ts => streamOutcome ((afterBar ts).map unhex) 1048576
  | "hostile" :: hs => streamOutcome (hs.map unhex) 1048576
  -- `deep <depth> <tail>`: `*1\r\n` nested <depth> times, then <tail> (compact form of a hostile stream near the 1 MiB bound)
  -- every well-formed bulk string up to the limit parses back to itself followed by the clean end of stream
  -- (`parse_enc`, `C02_sequence`, for every length at once)
  | ["bulksweep", _, _] => "ok"
  | ["bulk", decl, present, t] =>
    let stream := b!"$" ++ (toString decl.toNat!).toUTF8.toList ++ b!"\r\n" ++ List.replicate present.toNat! 97 ++ unhex t
    match inextAllShow [stream] with
    | (some (len, kind), e) => s!"v len={len} kind={kind} ; {e}"
    | (none, e) => e
  | ["longline", pre, ty, fill, n, tail, cut] =>
    let stream := unhex pre ++ unhex ty ++ (List.replicate n.toNat! (unhex fill)).flatten ++ unhex tail
    let c := cut.toNat!
    streamOutcome (if c > 0 && c < stream.length then [stream.take c, stream.drop c] else [stream]) 1048576
  | ["deep", d, t] => streamOutcome [(List.replicate d.toNat! b!"*1\r\n").flatten ++ unhex t] 1048576
  | ["ctor", "int", n] =>
    match n.toInt? with
    | some i =>
      let b := enc (.line .int (itoa i))
      let back := match parse (b.length + 1) b with
        | .ok (.line .int p) _ => (match atoi p with | some v => toString v | none => "atoi-fail")
        | _ => "parse-fail"
      s!"enc={hex b} back={back}"
    | none => "bad-case"
  | ["ctor", "status", h] => s!"enc={hex (enc (.line .str (unhex h)))}"
  | ["ctor", "error", h] => s!"enc={hex (enc (.line .err (unhex h)))}"
  | ["ctor", "bulk", h] => s!"enc={hex (enc (.bulk (some (unhex h))))}"
  | ["ctor", "nil"] => s!"enc={hex (enc (.bulk none))}"
  | ["ctor", "ok"] => s!"enc={hex (enc (.line .str b!"OK"))}"
  | "ctor" :: "strs" :: hs => s!"enc={hex (enc (.arr (hs.map fun h => .bulk (some (unhex h)))))}"
  | ["ctor", "float", _, fmt] => s!"enc={hex (enc (.bulk (some (unhex fmt))))} fmt={fmt}"
  | _ => "bad-op"


partial def loop (h : IO.FS.Stream) (out : IO.FS.Stream) : IO Unit := do
  let line ← h.getLine
  if line.isEmpty then return ()
  let toks := (line.trimAscii.toString.splitOn " ").filter (· ≠ "")
  out.putStrLn (handleLine toks)
  loop h out

def main : IO Unit := do
  let out ← IO.getStdout
  loop (← IO.getStdin) out
