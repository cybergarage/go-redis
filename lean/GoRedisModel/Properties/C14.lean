import GoRedisModel.Model.Discipline
import GoRedisModel.Proofs.Lockset
import GoRedisModel.Proofs.ControlFacts
/-! # C14 — no data races in server state shared between connections

Three layers.

1. `Proofs/Lockset`: in every trace of lock / unlock / access events that the mutexes admit, if every goroutine
   touches a variable only inside a lock bracket of the variable's guard (shared for reads, exclusive for writes),
   then two conflicting accesses by different goroutines are separated by `Unlock by the first … Lock by the second` –
   the synchronises-before edge of the Go memory model.  Proved for all traces, any number of goroutines.
2. The access table regenerated from /repo's source on every run (`Generated/Facts.lean`) satisfies that
   discipline at every site (`C14_table_discipline`, decided by the kernel on the table), covers the three shared
   fields the property names, and the listener fields are touched by the application thread only
   (`C14_lifecycle_facts`: the accept loops close *their own* listener and never read the server's fields).
3. The correspondence check runs concurrent workloads against the real server under the Go race detector and
   compares the reports with the model's prediction (`racePrediction = "race-free"`). -/
namespace GoRedis
open Generated Lockset

/-- every access site of a shared field in the current source holds the field's guard in a sufficient mode -/
theorem C14_table_discipline : tableOK accessTable = true := by decide

/-- … and the table is not empty for any of the shared fields (each has at least one writing site) -/
theorem C14_table_covers_shared_state : sharedCovered accessTable = true := by decide +kernel

/-- the listener fields are not shared after the lifecycle repair: loops close their own listener, the handshake
runs in the connection goroutine, Stop orders its phases -/
theorem C14_lifecycle_facts : lifecycleFactsOK = true := source_lifecycle_matches_transition_system

/-- the model's verdict for the current source -/
theorem C14_prediction : racePrediction = "race-free" := by
  unfold racePrediction
  rw [C14_table_discipline, C14_table_covers_shared_state, C14_lifecycle_facts]
  rfl

/-- a site with the required mode, seen as a trace block, follows the discipline: `Lock; access; Unlock` -/
def siteBlock (t : Tid) (a : Access) : List Ev :=
  [Ev.acq t (guardOf a.field) (a.held == "W"), Ev.acc t a.field a.write, Ev.rel t (guardOf a.field) (a.held == "W")]

theorem C14_site_block_follows (t : Tid) (a : Access) (h : siteOK a = true) (c : Cur) (hc : c t (guardOf a.field) = none) :
    Follows guardOf c (siteBlock t a) := by
  unfold siteOK at h
  simp only [siteBlock, Follows, hc, true_and, and_true]
  refine ⟨⟨a.held == "W", by simp [Cur.set], ?_⟩, by simp [Cur.set]⟩
  cases hw : a.write
  · exact Or.inr rfl
  · simp [hw] at h; exact Or.inl (by simp [h])

/-- **C14** – in any execution in which goroutines touch the shared fields only through bracketed sites (what
`C14_table_discipline` establishes for the current source), conflicting accesses are ordered by the guard's
release/acquire: there is no data race on the configuration map, the connection registry or the closed flag. -/
theorem C14_race_free (tr : List Ev) (hwf : ∀ l, wfL l [] tr) (hf : Follows guardOf (fun _ _ => none) tr)
    (pre mid post : List Ev) (t t' : Tid) (v : Var) (w w' : Bool)
    (htr : tr = pre ++ Ev.acc t v w :: (mid ++ Ev.acc t' v w' :: post))
    (hne : t ≠ t') (hconf : w = true ∨ w' = true) :
    ∃ a b c x x', mid = a ++ Ev.rel t (guardOf v) x :: (b ++ Ev.acq t' (guardOf v) x' :: c) :=
  conflicting_accesses_ordered guardOf tr hwf (follows_disciplined guardOf tr hf) pre mid post t t' v w w' htr hne hconf

/-- without the guard the same two accesses are unordered – the pre-repair `Config.SetConfig` / `ConfigString`
pair (reported by the race detector before commit 5c6216e) violates the discipline -/
theorem C14_unguarded_site_rejected :
    tableOK [⟨"Config", "params", "Config.SetConfig", true, ""⟩, ⟨"Config", "params", "Config.ConfigString", false, ""⟩] = false := by
  decide

/-- non-vacuity: CONFIG SET on goroutine 1 and CONFIG GET on goroutine 2, as blocks of the generated table -/
example : Follows guardOf (fun _ _ => none)
    (siteBlock 1 ⟨"Config", "params", "Config.SetConfig", true, "W"⟩ ++ siteBlock 2 ⟨"Config", "params", "Config.ConfigString", false, "R"⟩) := by
  simp [siteBlock, Follows, Cur.set, guardOf]

end GoRedis
