import GoRedisModel.Proofs.Parse
/-! A value cut short is not a value.  `Cut p m` below is the statement for one value `m` and an element parser `p`; it
holds for non-null bulk strings and passes from the elements to a non-empty array, so it holds for requests (and for
every tree of non-null bulk strings and non-empty arrays, by the same two lemmas). -/
namespace GoRedis

theorem hdr_bulk_digits (d : Bytes) (h : allDigits d) :
    hdr bulkByte d = .bad ∨ ∃ k hk, hdr bulkByte d = .bulk k hk := by
  rw [hdr_bulk]
  cases hat : atoi d with
  | none => exact .inl rfl
  | some v =>
    obtain ⟨n, rfl, _⟩ := atoi_digits_nonneg d h v hat
    have h0 : ¬ (n : Int) < 0 := by omega
    by_cases hk : n > maxBulk
    · exact .inl (by simp [h0, hk])
    · exact .inr ⟨n, by omega, by simp [h0, hk]⟩

theorem hdr_arr_digits (n : Nat) (hn : 1 ≤ n) (j : Nat) :
    hdr arrayByte ((dec n).take j) = .bad ∨ ∃ k, hdr arrayByte ((dec n).take j) = .arr (k + 1) := by
  rw [hdr_arr]
  cases hat : atoi ((dec n).take j) with
  | none => exact .inl rfl
  | some v =>
    obtain ⟨m, rfl, hm⟩ := atoi_digits_nonneg _ (allDigits_take _ j (dec_digits n)) v hat
    -- `dec n` starts with a digit other than 0, and so does every non-empty prefix of it
    obtain ⟨b, bs, hdec, hpos⟩ := natDigits_head (n + 1) n hn (Nat.lt_succ_self n)
    rw [dec, hdec] at hm
    cases j with
    | zero => contradiction  -- `hat`: the empty prefix is no number
    | succ j =>
      have := digitsVal_pos b _ hpos m hm
      exact .inr ⟨m - 1, congrArg Hdr.arr (by omega)⟩

/-- `m` cut anywhere inside its encoding is an error for the parser `p` (or, cut at 0, a clean end of stream): never
a value -/
def Cut (p : Bytes → PRes) (m : Msg) : Prop :=
  ∀ q, q < (enc m).length → p ((enc m).take q) = if q = 0 then .eof else .err

theorem parseElems_truncated (p : Bytes → PRes) (ms : List Msg) (hok : ∀ m ∈ ms, ∀ r, p (enc m ++ r) = .ok m r)
    (hcut : ∀ m ∈ ms, Cut p m) (q : Nat) (hq : q < (encs ms).length) (acc : List Msg) :
    parseElems p ms.length ((encs ms).take q) acc = .err := by
  induction ms generalizing q acc with
  | nil => contradiction
  | cons m ms ih =>
    simp only [encs, List.length_append] at hq
    simp only [encs, List.length_cons, parseElems]
    by_cases hlt : q < (enc m).length
    · rw [List.take_append_of_le_length (by omega), hcut m List.mem_cons_self q hlt]
      cases q <;> rfl
    · rw [List.take_append, List.take_of_length_le (by omega), hok m List.mem_cons_self]
      exact ih (fun x hx => hok x (List.mem_cons_of_mem _ hx)) (fun x hx => hcut x (List.mem_cons_of_mem _ hx)) _ (by omega) _

theorem cut_bulk (f : Nat) (b : Bytes) (hb : b.length ≤ maxBulk) : Cut (parse (f + 1)) (.bulk (some b)) := by
  intro q hq
  match q with
  | 0 => rfl
  | q + 1 =>
    rw [← List.append_nil (enc _), enc_bulk_append] at hq ⊢
    simp only [List.length_cons, List.length_append, List.length_nil] at hq
    rw [List.take_succ_cons, parse_cons, takeLine_take _ _ (dec_no_cr _)]
    by_cases h1 : q < (dec b.length).length
    · rw [show q - (dec b.length).length - 2 = 0 by omega]
      rcases hdr_bulk_digits _ (allDigits_take _ q (dec_digits b.length)) with e | ⟨k, hk, e⟩ <;> rw [e]
      · rfl
      · simp [bulkBody]
    · rw [List.take_of_length_le (by omega), hdr_bulk_dec _ hb]
      -- the length line is complete; fewer than `|b| + 2` bytes of payload and CRLF are left
      simp [bulkBody]
      omega

theorem cut_arr (f : Nat) (es : List Msg) (hne : 0 < (encs es).length) (hn : es.length ≤ maxInt)
    (hok : ∀ m ∈ es, ∀ r, parse (f + 1) (enc m ++ r) = .ok m r) (hcut : ∀ m ∈ es, Cut (parse (f + 1)) m) :
    Cut (parse (f + 2)) (.arr es) := by
  intro q hq
  match q with
  | 0 => rfl
  | q + 1 =>
    rw [← List.append_nil (enc _), enc_arr_append, List.append_nil] at hq ⊢
    simp only [List.length_cons, List.length_append] at hq
    rw [List.take_succ_cons, parse_cons, takeLine_take _ _ (dec_no_cr _)]
    by_cases h1 : q < (dec es.length).length
    · rw [show q - (dec es.length).length - 2 = 0 by omega]
      have hpos : 1 ≤ es.length := by cases es <;> simp [encs] at hne ⊢
      rcases hdr_arr_digits _ hpos q with e | ⟨k, e⟩ <;> rw [e] <;> rfl
    · rw [List.take_of_length_le (by omega), hdr_arr_dec _ hn]
      exact parseElems_truncated _ es hok hcut _ (by omega) []

def bulks (bs : List Bytes) : List Msg := bs.map fun b => Msg.bulk (some b)

end GoRedis
